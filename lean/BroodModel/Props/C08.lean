/-
  C08 — Tasks that may touch the same data never run concurrently.

  Static part (proved for every schedule): the generated verifier table cuts whenever one side of a
  shared component or resource is mutable; hence every group the greedy stager produces is
  pairwise compatible.  Dynamic part: `Claim::try_merge` (generated 3×3 table) succeeds only when
  there is no write/any overlap; the stage's claim map holds, per archetype, the *exact join* of the
  claims of all running tasks matching it (`MapExact`, `Lemmas/SchedDyn`), so a next-stage task is
  started early iff it conflicts with no running task on any archetype both match
  (`C08_add_on_decision_exact`) and every phase of every stage is conflict free
  (`C08_phase_conflict_free`).  The model's phases are compared with the real fork/join log by the
  correspondence check.  All of this speaks of claims; what conflict-free claims give when the
  steps of tasks interleave is `C07_interleaving_equivalence`, where a step is atomic and
  sequentially consistent: for data-race-free tasks the Rust memory model's guarantee (PARTIAL in
  that sense only).
-/
import BroodModel.Lemmas.SchedDyn

namespace Brood
open Static Generated

/-- **Soundness of the conflict table**: whenever the new view or the existing claim on the same
component is mutable, the verifier cuts. -/
theorem C08_verifier_sound (new : VK) (old : Old) (h : new ≠ .ident) (ho : old ≠ .claimed .ident)
    (hc : conflictKinds new old = true) : lookupV verifierTable new old = some .cut := by
  rw [verifier_table_exact new old h ho, if_pos hc]

/-- The merger cuts as soon as either the component or the resource decision cuts. -/
theorem C08_merger_sound (a b : D2) (h : a = .cut ∨ b = .cut) : lookupM mergerTable a b = some .cut := by
  rw [merger_table_exact]
  cases a <;> cases b <;> simp at h ⊢

/-- **Run-time merge is sound**: `Claim::try_merge` yields a claim only when neither side writes
what the other touches. -/
theorem C08_try_merge_sound (a b c : Cl) (h : tryMergeCl claimTryMerge a b = some c) :
    a.conflicts b = false :=
  (tryMergeCl_eq_some.mp h).1

/-- …and it remembers a write: the merged claim is mutable iff one of the two was. -/
theorem C08_try_merge_keeps_writes (a b c : Cl) (h : tryMergeCl claimTryMerge a b = some c) :
    c = .mutable ↔ (a = .mutable ∨ b = .mutable) :=
  (tryMergeCl_eq_some.mp h).2 ▸ sup_eq_mutable

/-- **Every group of every schedule is pairwise compatible**: no task of a group conflicts, on a
component or a resource, with a task placed in the group before it. -/
theorem C08_stages_compatible (ts : List Task) :
    ∀ g ∈ stages verifierTable mergerTable ts, Compatible g :=
  stages_compatible ts

/-- **The run-time add-on decision is exact**: with the stage's claim map being the exact join of
the running tasks' claims, a next-stage task's component claims are accepted iff they conflict
with the claims of no running task on any archetype both match. -/
theorem C08_add_on_decision_exact {n : Nat} {masks : List Mask} (hm : masks.Nodup) {cm : ClaimMap}
    {ts : List Task} (me : MapExact n masks cm ts) (u : Task) :
    ((tryAddClaims claimTryMerge n masks u cm).isSome = true ↔
      ∀ k ∈ masks, u.matchesArch k = true → ∀ t ∈ ts, t.matchesArch k = true →
        vecOk (u.claimVec n) (t.claimVec n) = true) :=
  tryAdd_isSome_iff hm me u

/-- **Every phase is conflict free** (run time): the tasks of a stage produced by the static
stager that have not run yet, together with the next-stage tasks started early as add-ons, may
all run at the same time — pairwise, no shared resource and no component of a common archetype is
claimed mutably by one and at all by the other.  For every set of archetypes, every pattern of
tasks that already ran, every next stage. -/
theorem C08_phase_conflict_free {n nres : Nat} {masks : List Mask} (hm : masks.Nodup)
    (ts : List Task) (hwf : ∀ t ∈ ts, t.WF) (stage : List Task)
    (hs : stage ∈ stages verifierTable mergerTable ts) (next : List Task) (hasRun : List Bool) :
    ((((List.zip stage hasRun).filter (fun p => !p.2)).map (·.1)) ++
        accepted next (runStage claimTryMerge n nres masks stage hasRun next).2).Pairwise
      (fun a b => TaskOk n nres masks b a) :=
  runStage_phase_safe hm stage next hasRun (stages_pairwise n nres masks ts hwf stage hs)

/-- Non-vacuity: reader then writer of one component are never grouped, also through entry views. -/
example :
    (stages verifierTable mergerTable
      [⟨[.ref 1], .none, [], []⟩, ⟨[.ident], .none, [.omut 1], []⟩]).length = 2 := by decide

example :
    (stages verifierTable mergerTable
      [⟨[], .none, [], [(0, false)]⟩, ⟨[], .none, [], [(0, true)]⟩]).length = 2 := by decide

end Brood

#print axioms Brood.C08_verifier_sound
#print axioms Brood.C08_merger_sound
#print axioms Brood.C08_try_merge_sound
#print axioms Brood.C08_try_merge_keeps_writes
#print axioms Brood.C08_stages_compatible
#print axioms Brood.C08_add_on_decision_exact
#print axioms Brood.C08_phase_conflict_free
