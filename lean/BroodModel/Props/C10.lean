/-
  C10 — A cloned world is an exact, fully independent copy.

  `World.clone w e next` mirrors `World::clone` → `Archetypes::clone` (fresh tables, every lookup
  key inserted twice) → `Allocator::clone` with the old→new identifier map (`unwrap_unchecked`: a
  missing key is `Out.ub`).  `e` is the epoch that gives the copied values their own identities
  (`cloneVal`), `next` the first handle (buffer address) of the copy.

  Proved here, for every world satisfying the invariant (hence every reachable world) and all `e`,
  `next`: the clone never hits a missing map key, satisfies the invariant, denotes the same map
  with every value copied, has the same `len` and copied resources, and compares equal to the
  original.  Because the copy satisfies the invariant, every theorem stated for such worlds (C01,
  C02, C04, C05, C13, C16 …) applies to it: "both keep satisfying every other property".

  Independence: model worlds are values, an operation on one cannot mention the other; what could
  go wrong in the code is sharing of buffers, which the correspondence check decides (both worlds
  are dumped and compared with their models after every operation on either) together with the
  drop ledger (a shared buffer shows up as a double drop).

  `clone_from` (`World.cloneFrom`, mirroring `Archetypes::clone_from`: every source table is
  looked up in the destination by identifier bytes and overwrites that table in place or is added
  as a new table; destination tables without a counterpart are cleared, not removed; type-id
  lookups are upserted; the allocator is rebuilt through the identifier map) is proved too
  (`C10_clone_from`): for every destination and source satisfying the invariant over the same
  registry it never fails, leaves the destination satisfying the invariant and denoting the
  source's map with copied values, same `len`, same resources — whatever the destination held.
  (It need not compare `==` to the source: emptied destination tables remain, and `World::eq`
  compares table counts; the property claims equality for `clone()` only.)
-/
import BroodModel.Lemmas.CloneFrom
import BroodModel.Lemmas.AllocAbs
import BroodModel.Lemmas.Lockstep
import BroodModel.Lemmas.NoUB

namespace Brood

/-- **`clone` never reaches an unchecked map lookup that misses, and yields a world satisfying the
invariant, denoting the same map (values copied), with the same `len` and resources, equal to the
original.** -/
theorem C10_clone {w : World} (hi : Inv w) (e next : Nat) :
    ∃ w', w.clone e next = .ok w' ∧ Inv w' ∧ w'.n = w.n ∧ w'.len = w.len ∧
      (∀ id, w'.entity id = (w.entity id).map (fun vs => vs.map (cloneVal e))) ∧
      w'.res = w.res.map (cloneVal e) ∧ World.eqWorld w w' = .ok true :=
  clone_spec hi e next

/-- The same for every reachable world. -/
theorem C10_clone_reachable (n : Nat) (res : List Val) (ops : List Op) {w : World}
    (h : run (World.init n res) ops = .ok w) (e next : Nat) :
    ∃ w', w.clone e next = .ok w' ∧ Inv w' ∧ w'.len = w.len ∧
      (∀ id, w'.entity id = (w.entity id).map (fun vs => vs.map (cloneVal e))) ∧
      World.eqWorld w w' = .ok true ∧ World.eqWorld w' w = .ok true := by
  have hi := run_inv (inv_init n res) ops h
  obtain ⟨w', h1, h2, _, h4, h5, _, h7⟩ := clone_spec hi e next
  exact ⟨w', h1, h2, h4, h5, h7, eqWorld_true_symm hi h2 h7⟩

/-- **`clone_from` yields a world holding the same entities, identifiers, values and resources as
the source, whatever the destination held before**, never reaches an unchecked map lookup that
misses, and leaves the destination satisfying the invariant. -/
theorem C10_clone_from {d s : World} (hd : Inv d) (hs : Inv s) (hn : d.n = s.n) (e : Nat) :
    ∃ fin drops, World.cloneFrom d s e = .ok (fin, drops) ∧ Inv fin ∧ fin.n = s.n ∧ fin.len = s.len ∧
      fin.res = s.res.map (cloneVal e) ∧
      ∀ id, fin.entity id = (s.entity id).map (fun vs => vs.map (cloneVal e)) :=
  cloneFrom_spec hd hs hn e

/-- The destination keeps working afterwards like any valid world. -/
theorem C10_clone_from_keeps_working {d s : World} (hd : Inv d) (hs : Inv s) (hn : d.n = s.n) (e : Nat)
    (ops : List Op) (hwt : ∀ op ∈ ops, op.wt s.n) :
    ∃ fin drops fin', World.cloneFrom d s e = .ok (fin, drops) ∧ run fin ops = .ok fin' ∧ Inv fin' := by
  obtain ⟨fin, drops, h1, h2, h3, _⟩ := cloneFrom_spec hd hs hn e
  obtain ⟨fin', r1, r2, _⟩ := run_total h2 ops (by rw [h3]; exact hwt)
  exact ⟨fin, drops, fin', h1, r1, r2⟩

/-- A copied value is equivalent to (compares equal with) the value it was copied from and has the
same component type; its ledger identity is its own (`e > 0`). -/
theorem C10_copied_values (e : Nat) (v : Val) :
    v.eqv (cloneVal e v) = true ∧ (cloneVal e v).ty = v.ty ∧
    (0 < e → v.id < epochBase → (cloneVal e v).id ≠ v.id) :=
  ⟨eqv_cloneVal e v, cloneVal_ty e v, fun he hv e' =>
    absurd (e' ▸ cloneVal_id_ge e v he) (Nat.not_le_of_lt hv)⟩

/-- **The copy keeps satisfying the other properties**: every admissible history continued on the
clone runs to completion (C05), preserves the invariant (C13) and refines the reference map
(C01), exactly like the original. -/
theorem C10_clone_keeps_working {w : World} (hi : Inv w) (e next : Nat) (ops : List Op)
    (hwt : ∀ op ∈ ops, op.wt w.n) :
    ∃ c c', w.clone e next = .ok c ∧ run c ops = .ok c' ∧ Inv c' := by
  obtain ⟨c, h1, h2, h3, _⟩ := clone_spec hi e next
  obtain ⟨c', r1, r2, _⟩ := run_total h2 ops (by rw [h3]; exact hwt)
  exact ⟨c, c', h1, r1, r2⟩

/-- Non-vacuity: cloning a concrete reachable world. -/
example :
    (match run (World.init 2 [⟨7, 70⟩]) [.insert [0, 1] [⟨0, 1⟩, ⟨1, 2⟩], .insert [1] [⟨1, 3⟩], .remove ⟨0, 0⟩] with
     | .ok w =>
       (match w.clone 1 100 with
        | .ok c => (c.entity ⟨1, 0⟩, c.entity ⟨0, 0⟩, c.len, c.res,
            (match World.eqWorld w c with | .ok r => some r | .ub _ => none))
        | .ub _ => (none, none, 0, [], none))
     | .ub _ => (none, none, 0, [], none)) =
    (some [⟨1, 3 + 1048576⟩], none, 1, [⟨7, 70 + 1048576⟩], some true) := by decide

/-- Non-vacuity: `clone_from` into a destination that shares one table shape with the source, has
one the source lacks and lacks one the source has. -/
example :
    (match run (World.init 3 []) [.insert [0] [⟨0, 1⟩], .insert [1] [⟨1, 2⟩], .remove ⟨0, 0⟩],
           run (World.init 3 []) [.insert [0] [⟨0, 5⟩], .insert [0, 2] [⟨0, 6⟩, ⟨2, 7⟩]] with
     | .ok d, .ok s =>
       (match World.cloneFrom d s 1 with
        | .ok (f, _) => (f.entity ⟨0, 0⟩, f.entity ⟨1, 0⟩, f.len, f.archs.length)
        | .ub _ => (none, none, 0, 0))
     | _, _ => (none, none, 0, 0)) =
    (some [⟨0, 5 + 1048576⟩], some [⟨0, 6 + 1048576⟩, ⟨2, 7 + 1048576⟩], 2, 3) := by decide

/-- **A clone and its original keep issuing the same identifiers**: fed the same operations (any
history, `clear` in whatever table order each world has), both are handed the same identifiers —
the identifiers issued depend on the allocator abstraction only, which `clone` copies. -/
theorem C10_clone_lockstep {w : World} (hi : Inv w) (e next : Nat) (opsa opsb : List Op)
    (hops : opsa.map Op.forget = opsb.map Op.forget) :
    ∃ w', w.clone e next = .ok w' ∧
      ∀ {a b : World} {ia ib : List Ident}, runIssued w opsa = .ok (a, ia) → runIssued w' opsb = .ok (b, ib) →
        ia = ib ∧ a.alloc.abs = b.alloc.abs :=
  ⟨_, clone_ok hi e next, fun ra rb =>
    lockstep_run opsa opsb hops hi (cloneWorld_inv hi e next) (reloc_abs _ _).symm ra rb⟩

-- `hwt` is not needed: lock step holds along every pair of successful runs (`twin_lockstep`)
set_option linter.unusedVariables false in
/-- … and keep holding the same map: a clone and its original, fed the same admissible operations,
are issued the same identifiers and stay equal as maps from identifiers to values (up to the
component types' `PartialEq`), for every history. -/
theorem C10_clone_lockstep_full {w : World} (hi : Inv w) (e next : Nat) (opsa opsb : List Op)
    (hops : opsa.map Op.forget = opsb.map Op.forget) (hwt : ∀ op ∈ opsa, op.wt w.n) :
    ∃ w', w.clone e next = .ok w' ∧
      ∀ {a b : World} {ia ib : List Ident}, runIssued w opsa = .ok (a, ia) → runIssued w' opsb = .ok (b, ib) →
        ia = ib ∧ ∀ id, entEqv (a.entity id) (b.entity id) = true :=
  ⟨_, clone_ok hi e next, fun ra rb =>
    have ⟨hiss, t⟩ := twin_lockstep opsa opsb hops hi (cloneWorld_inv hi e next)
      ((cloneWorld_copy hi e next).twin hi fun v _ => eqv_cloneVal e v) ra rb
    ⟨hiss, t.map⟩⟩

end Brood

#print axioms Brood.C10_clone
#print axioms Brood.C10_clone_reachable
#print axioms Brood.C10_copied_values
#print axioms Brood.C10_clone_keeps_working
#print axioms Brood.C10_clone_from
#print axioms Brood.C10_clone_from_keeps_working
#print axioms Brood.C10_clone_lockstep
#print axioms Brood.C10_clone_lockstep_full
