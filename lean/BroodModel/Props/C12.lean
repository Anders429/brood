/-
  C12 — Independent tasks are actually allowed to run in parallel; schedules terminate.

  The conflict tables are *generated from the source on every run* (Generated/Tables.lean); the
  theorems below are re-checked by the kernel against them.  `stages` is the greedy in-order
  stager of stager.rs; the correspondence check compares it with `type_name::<S::Stages>()` of
  real schedule types.  Termination: `stages`, `runStages` are structurally recursive total
  functions (Lean accepts them); that the real `run_schedule` returns on a 1-thread pool is a
  run-time fact about rayon, exercised (with a timeout) by the correspondence run — PARTIAL.
-/
import BroodModel.Lemmas.SchedDyn

namespace Brood
open Static Generated

/-- **Precision of the conflict table** (the direction C08 does not need): the verifier cuts
*only* when one side of a shared component is mutable; two immutable (or optional immutable)
accesses, or a component the stage does not claim, never cut. -/
theorem C12_verifier_precise (new : VK) (old : Old) (h : new ≠ .ident) (ho : old ≠ .claimed .ident) :
    lookupV verifierTable new old = some .cut → conflictKinds new old = true := by
  rw [verifier_table_exact new old h ho]
  by_cases hc : conflictKinds new old <;> simp [hc]

/-- The merger keeps `Append` when both component and resource decisions append. -/
theorem C12_merger_precise : lookupM mergerTable .append .append = some .append := rfl

/-- **Independent tasks share a stage**: a task that conflicts with no task of the current group
is appended to it, not cut off. -/
theorem C12_independent_appended (stage : List Task) (t : Task) (h : stageConflict stage t = false) :
    stageDecision verifierTable mergerTable stage t = .append :=
  (stageDecision_append_iff stage t).mpr h

/-- **The schedule is not silently serialised**: every boundary between two consecutive groups
is caused by a conflict between the first task of the later group and some task of the earlier. -/
theorem C12_boundaries_justified (ts : List Task) :
    Justified (stages verifierTable mergerTable ts) :=
  stagesAux_justified ts []

/-- **Run time: an independent next-stage task is started early, not made to wait**: if its
component claims conflict with no running task on any archetype both match, the add-on check
accepts them (the converse of the C08 safety direction; the claim map is the exact join of the
running tasks' claims, so nothing is refused because of a stale or over-approximated claim). -/
theorem C12_independent_add_on_accepted {n : Nat} {masks : List Mask} (hm : masks.Nodup) {cm : ClaimMap}
    {ts : List Task} (me : MapExact n masks cm ts) (u : Task)
    (h : ∀ k ∈ masks, u.matchesArch k = true → ∀ t ∈ ts, t.matchesArch k = true →
      vecOk (u.claimVec n) (t.claimVec n) = true) :
    ∃ cm', tryAddClaims claimTryMerge n masks u cm = some cm' ∧ MapExact n masks cm' (ts ++ [u]) := by
  obtain ⟨cm', hc⟩ := Option.isSome_iff_exists.mp ((tryAdd_isSome_iff hm me u).mpr h)
  exact ⟨cm', hc, tryAdd_mapExact hm me u hc⟩

/-- Every task is staged exactly once and in the order written (no task lost or duplicated). -/
theorem C12_stages_flatten (ts : List Task) : (stages verifierTable mergerTable ts).flatten = ts :=
  stages_flatten _ _ ts

/-- Non-vacuity: two readers of component 0 share a stage; a writer is cut off. -/
example :
    (stages verifierTable mergerTable
      [⟨[.ref 0], .none, [], []⟩, ⟨[.oref 0, .ident], .none, [], []⟩, ⟨[.mut 0], .none, [], []⟩]).map List.length
      = [2, 1] := by decide

end Brood

#print axioms Brood.C12_verifier_precise
#print axioms Brood.C12_merger_precise
#print axioms Brood.C12_independent_appended
#print axioms Brood.C12_boundaries_justified
#print axioms Brood.C12_stages_flatten
#print axioms Brood.C12_independent_add_on_accepted
