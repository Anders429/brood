/-
  C01 — World behaves as a map from live identifiers to component sets.

  `World.entity w id` is the map a user has in mind (the values stored for `id`, in registry
  order, `none` when `id` is not live).  The theorems say how each public operation changes that
  map and that nothing else changes — for every world satisfying the invariant, hence (by
  `run_inv`) for every world reachable by any history — and lift this to whole histories as a
  refinement of the reference map (`RefStep`, `RefRun`).

  `clone`, `clone_from` and serialize+deserialize involve a second world; `C01_copies` collects
  their map-level statements (proved in C10 / C06), and `C01_reachable` states the map view's
  consistency for every world reachable through any mix of these operations.
-/
import BroodModel.Lemmas.Entity
import BroodModel.Lemmas.Reach

namespace Brood

/-! ### per-operation statements (with the results the operation returns) -/

/-- `insert` adds exactly one entity under a previously dead identifier; nothing else changes. -/
theorem C01_insert {w w' : World} {shape : List Nat} {vals : List Val} {nid : Ident} (hi : Inv w)
    (e : w.insert shape vals = .ok (w', nid)) :
    w.entity nid = none ∧ w'.entity nid = some (World.canonVals w.n shape vals) ∧
    (∀ id', id' ≠ nid → w'.entity id' = w.entity id') ∧ w'.len = w.len + 1 :=
  insert_entity hi e

/-- `extend` returns one identifier per batch row, in batch order, all distinct and previously
dead; row `k` is stored under identifier `k`; nothing else changes. -/
theorem C01_extend {w w' : World} {shape : List Nat} {rows : List (List Val)} {ids : List Ident}
    (hi : Inv w) (e : w.extend shape rows = .ok (w', ids)) :
    ids.length = rows.length ∧ ids.Nodup ∧ (∀ id ∈ ids, w.entity id = none) ∧
    (∀ (k : Nat) (id : Ident) (r : List Val), ids[k]? = some id → rows[k]? = some r →
      w'.entity id = some (World.canonVals w.n shape r)) ∧
    (∀ id', id' ∉ ids → w'.entity id' = w.entity id') ∧ w'.len = w.len + rows.length :=
  extend_entity hi e

/-- `remove` deletes exactly that entity (a stale or unknown identifier: nothing). -/
theorem C01_remove {w w' : World} {id : Ident} {drops : List Val} (hi : Inv w)
    (e : w.remove id = .ok (w', drops)) :
    w'.entity id = none ∧ (∀ id', id' ≠ id → w'.entity id' = w.entity id') ∧
    w'.len + (if (w.entity id).isSome then 1 else 0) = w.len :=
  let ⟨a, b, _, d⟩ := remove_entity hi e
  ⟨a, b, d⟩

theorem C01_clear {w w' : World} {order : List Mask} {drops : List Val} (hi : Inv w)
    (e : w.clear order = .ok (w', drops)) : (∀ id, w'.entity id = none) ∧ w'.len = 0 :=
  clear_entity hi e

-- `hc`, `hv` say which calls the type system admits; a call that succeeds satisfies them
set_option linter.unusedVariables false in
/-- `Entry::add` sets component `c` of the entity (replacing a present value), touches no other
entity, and leaves `len` unchanged; on an identifier that is not live it does nothing. -/
theorem C01_entry_add {w w' : World} {id : Ident} {c : Nat} {v : Val} {res : Option (List Val)}
    (hi : Inv w) (hc : c < w.n) (hv : v.ty = c) (e : w.entryAdd id c v = .ok (w', res)) :
    w'.entity id = (w.entity id).map (Spec.insertVal v) ∧
    (∀ id', id' ≠ id → w'.entity id' = w.entity id') ∧ w'.len = w.len :=
  entryAdd_entity hi e

/-- `Entry::remove` deletes component `c` of the entity (nothing if absent), touches no other
entity, and leaves `len` unchanged. -/
theorem C01_entry_remove {w w' : World} {id : Ident} {c : Nat} {res : Option (List Val)}
    (hi : Inv w) (e : w.entryRemove id c = .ok (w', res)) :
    w'.entity id = (w.entity id).map (fun vs => vs.filter (fun v => v.ty ≠ c)) ∧
    (∀ id', id' ≠ id → w'.entity id' = w.entity id') ∧ w'.len = w.len :=
  entryRemove_entity hi e

-- `hv` is what the type system guarantees; a successful `write` implies it (the model answers
-- `typeConfusion` otherwise), so the proof does not use it
set_option linter.unusedVariables false in
/-- A write through a `&mut` view replaces component `c` of the entity if it is present, and changes
nothing else. -/
theorem C01_write {w w' : World} {id : Ident} {c : Nat} {v : Val} {res : Option (List Val)}
    (hi : Inv w) (hv : v.ty = c) (e : w.write id c v = .ok (w', res)) :
    w'.entity id = (w.entity id).map
      (fun vs => if vs.any (fun x => x.ty == c) then Spec.insertVal v vs else vs) ∧
    (∀ id', id' ≠ id → w'.entity id' = w.entity id') ∧ w'.len = w.len :=
  write_entity hi e

theorem C01_reserve_shrink {w : World} (hi : Inv w) :
    (∀ shape w', w.reserve shape = .ok w' → (∀ id, w'.entity id = w.entity id) ∧ w'.len = w.len) ∧
    ((∀ id, w.shrinkToFit.entity id = w.entity id) ∧ w.shrinkToFit.len = w.len) :=
  ⟨fun _ _ e => reserve_entity hi e, shrink_entity hi⟩

/-- `len()` is the number of live identifiers and `is_empty()` says there is none. -/
theorem C01_len {w : World} (hi : Inv w) :
    (∃ l : List Ident, l.Nodup ∧ l.length = w.len ∧ ∀ id, id ∈ l ↔ (w.entity id).isSome) ∧
    (w.isEmpty = true ↔ ∀ id, w.entity id = none) :=
  ⟨⟨w.stored, len_counts_entities hi⟩, isEmpty_iff hi⟩

/-- `contains` / `entry` agree with the map. -/
theorem C01_contains {w : World} (hi : Inv w) (id : Ident) :
    w.contains id = (w.entity id).isSome ∧ w.hasEntry id = (w.entity id).isSome :=
  ⟨Bool.eq_iff_iff.mpr (Alloc.isActive_iff_get.trans (entity_isSome_iff hi).symm),
    Bool.eq_iff_iff.mpr (entity_isSome_iff hi).symm⟩

/-! ### the order components are written in does not matter -/

/-- Writing the same components in another order (`entity!(A, B)` vs `entity!(B, A)`) gives the
same canonical row, hence the same table, the same identifier and the same world. -/
theorem C01_written_order_irrelevant {n : Nat} {shape shape' : List Nat} {vals vals' : List Val}
    (hn : shape.Nodup) (hl : shape.length = vals.length) (hl' : shape'.length = vals'.length)
    (hp : (shape.zip vals).Perm (shape'.zip vals')) :
    World.canonVals n shape vals = World.canonVals n shape' vals' ∧
    Mask.ofShape n shape = Mask.ofShape n shape' := by
  have hk : (shape.zip vals).map (·.1) = shape := List.map_fst_zip (by omega)
  have hk' : (shape'.zip vals').map (·.1) = shape' := List.map_fst_zip (by omega)
  have hps : shape.Perm shape' := by
    have := hp.map (·.1); rwa [hk, hk'] at this
  have hn1 : ((shape.zip vals).map (·.1)).Nodup := by rw [hk]; exact hn
  have hn2 : ((shape'.zip vals').map (·.1)).Nodup := by rw [hk']; exact hps.nodup_iff.mp hn
  exact ⟨filterMap_congr' fun c _ => Option.ext fun v => by
      rw [lookup_some_iff hn1, lookup_some_iff hn2]; exact hp.mem_iff,
    List.map_congr_left fun c _ => hps.contains_eq⟩

theorem C01_insert_order_irrelevant {w : World} {shape shape' : List Nat} {vals vals' : List Val}
    (hn : shape.Nodup) (hl : shape.length = vals.length) (hl' : shape'.length = vals'.length)
    (hp : (shape.zip vals).Perm (shape'.zip vals')) :
    w.insert shape vals = w.insert shape' vals' := by
  obtain ⟨h1, h2⟩ := C01_written_order_irrelevant (n := w.n) hn hl hl' hp
  unfold World.insert
  rw [h1, h2]

/-! ### refinement over histories -/

/-- The reference: a partial map from identifiers to rows. -/
abbrev EMap := Ident → Option (List Val)

def EMap.upd (m : EMap) (id : Ident) (x : Option (List Val)) : EMap := fun j => if j = id then x else m j

/-- One step of the reference map.  Fresh identifiers are chosen by the implementation; the
reference only demands that they were not live. -/
def RefStep (n : Nat) (m m' : EMap) : Op → Prop
  | .insert shape vals =>
      ∃ nid, m nid = none ∧ m' = m.upd nid (some (World.canonVals n shape vals))
  | .extend shape rows =>
      ∃ ids : List Ident, ids.length = rows.length ∧ ids.Nodup ∧ (∀ id ∈ ids, m id = none) ∧
        (∀ (k : Nat) (id : Ident) (r : List Val), ids[k]? = some id → rows[k]? = some r →
          m' id = some (World.canonVals n shape r)) ∧
        (∀ id', id' ∉ ids → m' id' = m id')
  | .remove id => m' = m.upd id none
  | .clear _ => m' = fun _ => none
  | .add id _ v => m' = m.upd id ((m id).map (Spec.insertVal v))
  | .del id c => m' = m.upd id ((m id).map (fun vs => vs.filter (fun v => v.ty ≠ c)))
  | .write id c v =>
      m' = m.upd id ((m id).map
        (fun vs => if vs.any (fun x => x.ty == c) then Spec.insertVal v vs else vs))
  | .reserve _ => m' = m
  | .shrink => m' = m

inductive RefRun (n : Nat) : EMap → List Op → EMap → Prop
  | nil (m : EMap) : RefRun n m [] m
  | cons {m m1 m' : EMap} {op : Op} {ops : List Op} :
      RefStep n m m1 op → RefRun n m1 ops m' → RefRun n m (op :: ops) m'

theorem upd_ext {m m' : EMap} {id : Ident} {x : Option (List Val)} (h1 : m' id = x)
    (h2 : ∀ id', id' ≠ id → m' id' = m id') : m' = m.upd id x := by
  funext j
  unfold EMap.upd
  split
  next h => rw [h, h1]
  next h => exact h2 j h

theorem step_refines {w w' : World} (hi : Inv w) {op : Op} (e : step w op = .ok w') :
    RefStep w.n w.entity w'.entity op := by
  cases op with
  | insert shape vals =>
    obtain ⟨nid, h⟩ := fstOut_eq_ok e
    obtain ⟨p1, p2, p3, _⟩ := insert_entity hi h
    exact ⟨nid, p1, upd_ext p2 p3⟩
  | extend shape rows =>
    obtain ⟨ids, h⟩ := fstOut_eq_ok e
    obtain ⟨q1, q2, q3, q4, q5, _⟩ := extend_entity hi h
    exact ⟨ids, q1, q2, q3, q4, q5⟩
  | remove id =>
    obtain ⟨d, h⟩ := fstOut_eq_ok e
    obtain ⟨p1, p2, _, _⟩ := remove_entity hi h
    exact upd_ext p1 p2
  | clear order =>
    obtain ⟨d, h⟩ := fstOut_eq_ok e
    exact funext (clear_entity hi h).1
  | add id c v =>
    obtain ⟨d, h⟩ := fstOut_eq_ok e
    obtain ⟨p1, p2, _⟩ := entryAdd_entity hi h
    exact upd_ext p1 p2
  | del id c =>
    obtain ⟨d, h⟩ := fstOut_eq_ok e
    obtain ⟨p1, p2, _⟩ := entryRemove_entity hi h
    exact upd_ext p1 p2
  | write id c v =>
    obtain ⟨d, h⟩ := fstOut_eq_ok e
    obtain ⟨p1, p2, _⟩ := write_entity hi h
    exact upd_ext p1 p2
  | reserve shape => exact funext (reserve_entity hi e).1
  | shrink =>
    cases e
    exact funext (shrink_entity hi).1

-- `hwt` is not needed: a step that succeeds was admissible where it matters (`entryAdd_entity`)
set_option linter.unusedVariables false in
/-- **Every step of the implementation is a step of the reference map.** -/
theorem C01_step_refines {w w' : World} (hi : Inv w) {op : Op} (hwt : op.wt w.n)
    (e : step w op = .ok w') : RefStep w.n w.entity w'.entity op :=
  step_refines hi e

theorem run_refines (ops : List Op) {w0 w : World} (hi : Inv w0)
    (e : run w0 ops = .ok w) : RefRun w0.n w0.entity ops w.entity := by
  induction ops generalizing w0 with
  | nil => cases e; exact .nil _
  | cons op ops ih =>
    obtain ⟨w1, e1, e2⟩ := run_cons_eq_ok e
    exact .cons (step_refines hi e1) (step_n e1 ▸ ih (step_inv hi e1) e2)

-- `hwt` is not needed (`step_refines`)
set_option linter.unusedVariables false in
/-- **Refinement**: every history of admissible operations, started on the empty world, is a run
of the reference map ending in the map the final world denotes; and in that world `len()` is the
number of live identifiers. -/
theorem C01_refinement (n : Nat) (res : List Val) (ops : List Op) (hwt : ∀ op ∈ ops, op.wt n)
    {w : World} (h : run (World.init n res) ops = .ok w) :
    RefRun n (fun _ => none) ops w.entity ∧
    ∃ l : List Ident, l.Nodup ∧ l.length = w.len ∧ ∀ id, id ∈ l ↔ (w.entity id).isSome :=
  ⟨run_refines ops (inv_init n res) h, w.stored,
    len_counts_entities (run_inv (inv_init n res) ops h)⟩

/-- **Every reachable world** — any history over any number of worlds, including clones,
`clone_from` destinations and worlds deserialized from arbitrary input — is a consistent map:
`len()` is the number of live identifiers, `is_empty()` says there is none, `contains` / `entry`
agree with the map, and every admissible operation keeps behaving as the reference map says. -/
theorem C01_reachable {w : World} (h : Reachable w) :
    (∃ l : List Ident, l.Nodup ∧ l.length = w.len ∧ ∀ id, id ∈ l ↔ (w.entity id).isSome) ∧
    (w.isEmpty = true ↔ ∀ id, w.entity id = none) ∧
    (∀ id, w.contains id = (w.entity id).isSome) ∧
    (∀ op w', op.wt w.n → step w op = .ok w' → RefStep w.n w.entity w'.entity op) := by
  have hi := reachable_inv h
  exact ⟨(C01_len hi).1, (C01_len hi).2, fun id => (C01_contains hi id).1,
    fun _ _ _ e => step_refines hi e⟩

/-- **Copies hold the same map**: a clone and a `clone_from` destination hold exactly the
source's entities — same identifiers, copied values — with the same `len`, whatever the
destination held before. -/
theorem C01_copies {d s : World} (hd : Inv d) (hs : Inv s) (hn : d.n = s.n) (e next : Nat) :
    (∃ c, s.clone e next = .ok c ∧ c.len = s.len ∧
      ∀ id, c.entity id = (s.entity id).map (fun vs => vs.map (cloneVal e))) ∧
    (∃ fin drops, World.cloneFrom d s e = .ok (fin, drops) ∧ fin.len = s.len ∧
      ∀ id, fin.entity id = (s.entity id).map (fun vs => vs.map (cloneVal e))) := by
  obtain ⟨c, h1, _, _, h4, h5, _⟩ := clone_spec hs e next
  obtain ⟨fin, drops, g1, _, _, g4, _, g6⟩ := cloneFrom_spec hd hs hn e
  exact ⟨⟨c, h1, h4, h5⟩, ⟨fin, drops, g1, g4, g6⟩⟩

/-- Non-vacuity: the map of a concrete reachable world. -/
example :
    let w := run (World.init 3 [])
      [.insert [1, 0] [⟨1, 11⟩, ⟨0, 10⟩], .extend [2] [[⟨2, 20⟩], [⟨2, 21⟩]],
       .add ⟨0, 0⟩ 2 ⟨2, 22⟩, .del ⟨0, 0⟩ 1, .remove ⟨2, 0⟩]
    (match w with
      | .ok w => (w.entity ⟨0, 0⟩, w.entity ⟨1, 0⟩, w.entity ⟨2, 0⟩, w.len)
      | .ub _ => (none, none, none, 0)) =
    (some [⟨0, 10⟩, ⟨2, 22⟩], some [⟨2, 20⟩], none, 2) := by decide

end Brood

#print axioms Brood.C01_insert
#print axioms Brood.C01_extend
#print axioms Brood.C01_remove
#print axioms Brood.C01_clear
#print axioms Brood.C01_entry_add
#print axioms Brood.C01_entry_remove
#print axioms Brood.C01_write
#print axioms Brood.C01_reserve_shrink
#print axioms Brood.C01_len
#print axioms Brood.C01_contains
#print axioms Brood.C01_written_order_irrelevant
#print axioms Brood.C01_insert_order_irrelevant
#print axioms Brood.C01_step_refines
#print axioms Brood.C01_refinement
#print axioms Brood.C01_reachable
#print axioms Brood.C01_copies
