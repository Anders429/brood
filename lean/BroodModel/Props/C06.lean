/-
  C06 — Serialize then deserialize reproduces the world exactly.

  `Serde.serialize` / `Serde.deserialize` are token-level models of brood's `Serialize` /
  `Deserialize` impls (row-wise when human readable, column-wise otherwise).  A round trip re-tags
  every value with the epoch of the operation (`retag`: same component type, same base identity,
  own ledger identity; a zero-sized value gets identity 0) and gives the tables fresh handles
  (buffer addresses).

  Proved for **every** world satisfying the invariant — hence every reachable world, every clone
  and every world that was itself deserialized (C13) — whose resources are typed by position
  (`ResOk`) and whose zero-sized values carry no identity (`ZOk`; both hold of every world the
  harness builds and are decidable): in both encodings, for every epoch and handle base, the
  round trip succeeds, yields a world satisfying the invariant, which compares equal to the
  original (both ways), holds the same live identifiers with equivalent values, the same `len`
  and equivalent resources, issues the same identifier on the next insertion, and keeps behaving
  like any valid world under further operations — including being serialized again.  "From then
  on behaves identically": after any further admissible history applied to both, the original and
  the copy have been issued the same identifiers and hold the same map, `len` and resources up to
  `PartialEq`, so that every query returns corresponding rows (`C06_lockstep*`).

  Not a theorem: iteration order of later queries (hash order in the code, creation order in the
  model) — "up to iteration order" in the property; the correspondence check compares sorted rows.
-/
import BroodModel.Lemmas.RoundTrip
import BroodModel.Props.C04
import BroodModel.Lemmas.AllocAbs
import BroodModel.Lemmas.Lockstep
import BroodModel.Lemmas.NoUB

namespace Brood
open Serde

/-- The full statement of the round-trip property for one world. -/
def RoundTrips (k : Kinds) (hr : Bool) (e next : Nat) (w : World) : Prop :=
  ∃ w', deserialize k hr w.n w.res.length e next (serialize hr w) = .ok w' ∧ Inv w' ∧
    World.eqWorld w w' = .ok true ∧ World.eqWorld w' w = .ok true ∧ w'.len = w.len ∧
    rowEqv w.res w'.res = true ∧ ∀ id, entEqv (w.entity id) (w'.entity id) = true

/-- **Serialize then deserialize succeeds and reproduces the world**, both encodings. -/
theorem C06_roundtrip {w : World} (hi : Inv w) (hres : ResOk w) {k : Kinds} (hz : ZOk k w)
    (hr : Bool) (e next : Nat) : RoundTrips k hr e next w := by
  have hde := roundtrip_closed hi hres k hr e next
  have hi' := deserialize_inv hde
  have h3 := (retagWorld_copy hi k e next).eqWorld hi hi' (renumbered_length _ _ _)
    fun v hv => eqv_retag (hz v hv)
  obtain ⟨s1, s2, s3⟩ := eqWorld_sound hi hi' h3
  exact ⟨_, hde, hi', h3, eqWorld_true_symm hi hi' h3, s1.symm, s2, s3⟩

/-- The same for every reachable world (any history, cloned or deserialized worlds included). -/
theorem C06_roundtrip_reachable (n : Nat) (res : List Val) (ops : List Op) {w : World}
    (h : run (World.init n res) ops = .ok w) (hres : ResOk w) {k : Kinds} (hz : ZOk k w)
    (hr : Bool) (e next : Nat) : RoundTrips k hr e next w :=
  C06_roundtrip (run_inv (inv_init n res) ops h) hres hz hr e next

/-- **Same identifiers issued afterwards**: worlds that compare equal allocate the same identifier
for the next entity (same free queue, same slot generations, same slot count). -/
theorem C06_same_next_identifier {a b : World} (ha : Inv a) (hb : Inv b)
    (heq : World.eqWorld a b = .ok true) (la lb : Loc) :
    (match a.alloc.allocate la, b.alloc.allocate lb with
     | .ok (_, i), .ok (_, j) => i = j
     | _, _ => False) := by
  obtain ⟨a', i, ea⟩ := Alloc.allocate_ok ha.ainv la
  obtain ⟨b', j, eb⟩ := Alloc.allocate_ok hb.ainv lb
  have h := allocate_abs ea
  rw [eqWorld_abs ha hb heq, allocate_abs eb] at h
  rw [ea, eb]
  exact (Prod.mk.inj h).2.symm

/-- **The result keeps behaving like a valid world**: every admissible history continued on it
runs to completion and keeps the invariant; in particular it can be serialized and deserialized
again ("a world that was itself deserialized … still serializes to something deserializable"). -/
theorem C06_result_behaves {w w' : World} {k : Kinds} {hr : Bool} {e next : Nat}
    (h : deserialize k hr w.n w.res.length e next (serialize hr w) = .ok w') (ops : List Op)
    (hwt : ∀ op ∈ ops, op.wt w'.n) : ∃ w'', run w' ops = .ok w'' ∧ Inv w'' := by
  obtain ⟨w'', r1, r2, _⟩ := run_total (deserialize_inv h) ops hwt
  exact ⟨w'', r1, r2⟩

/-- **`clear` keeps a world and its copy in step.**  The allocator `World::clear` leaves behind —
slots and free queue, hence every identifier issued afterwards — does not depend on the order in
which the table iterator visits the archetypes (an order that differs between a world and its
round-tripped or cloned copy, the table being keyed by the address of each archetype's
identifier): the slots freed by one `clear` are put in ascending order.  Before repair 0564c68 the
free queue kept the visiting order, and a world and its copy issued different identifiers after
`clear()`. -/
theorem C06_clear_order_independent {w : World} (hi : Inv w) (o1 o2 : List Mask)
    {w1 w2 : World} {d1 d2 : List Val} (e1 : w.clear o1 = .ok (w1, d1)) (e2 : w.clear o2 = .ok (w2, d2)) :
    w1.alloc = w2.alloc ∧ w1.archs = w2.archs ∧ w1.len = w2.len ∧ w1.res = w2.res := by
  obtain ⟨a1, l1, r1, -⟩ := clear_cases e1
  obtain ⟨a2, l2, r2, -⟩ := clear_cases e2
  exact ⟨(clear_alloc_eq hi e1).trans (clear_alloc_eq hi e2).symm, a1.trans a2.symm, l1.trans l2.symm,
    r1.trans r2.symm⟩

/-- Free queue of the world an operation returns. -/
def freeAfter : Out (World × List Val) → Option (List Nat)
  | .ok (a, _) => some a.alloc.free
  | .ub _ => none

/-- Two tables of one entity each. -/
def twoTables : World :=
  ⟨2, [⟨0, [true, false], [⟨0, 0⟩], [[⟨0, 1⟩]]⟩, ⟨1, [false, true], [⟨1, 0⟩], [[⟨1, 2⟩]]⟩],
    [], [([true, false], 0), ([false, true], 1)], ⟨[⟨0, some ⟨0, 0⟩⟩, ⟨0, some ⟨1, 0⟩⟩], []⟩, 2, [], 2⟩

/-- The column loop alone does depend on the order (`clearWith`: the loop over an explicit visiting
list): the two tables, visited in the two possible orders, leave different free queues — which is
what the real code did before the repair; `C06_clear_order_independent` is about `clear`. -/
example :
    freeAfter (twoTables.clearWith twoTables.archs) = some [0, 1] ∧
    freeAfter (twoTables.clearWith twoTables.archs.reverse) = some [1, 0] ∧ Inv twoTables := by
  decide

/-- A world and its round-tripped copy are twins (`Twin`: same registry size, same allocator
abstraction, same map up to `PartialEq`), with equivalent resources. -/
theorem roundtrip_twin {w : World} (hi : Inv w) (hres : ResOk w) {k : Kinds} (hz : ZOk k w)
    (hr : Bool) (e next : Nat) :
    ∃ w', deserialize k hr w.n w.res.length e next (serialize hr w) = .ok w' ∧ Inv w' ∧ Twin w w' ∧
      rowEqv w.res w'.res = true :=
  have hde := roundtrip_closed hi hres k hr e next
  have hφ : ∀ v ∈ w.values, v.eqv (retag k e v) = true := fun v hv => eqv_retag (hz v hv)
  ⟨_, hde, deserialize_inv hde, (retagWorld_copy hi k e next).twin hi hφ,
    rowEqv_map w.res fun v hv => hφ v (List.mem_append_right _ hv)⟩

/-- **A world and its round-tripped copy stay twins**: after corresponding histories (any
admissible operations; `clear` in whatever order each world's table is visited) both have been
issued the same identifiers, satisfy the invariant, are twins again and have equivalent resources. -/
theorem roundtrip_stays_twin {w : World} (hi : Inv w) (hres : ResOk w) {k : Kinds} (hz : ZOk k w)
    (hr : Bool) (e next : Nat) (opsa opsb : List Op) (hops : opsa.map Op.forget = opsb.map Op.forget) :
    ∃ w', deserialize k hr w.n w.res.length e next (serialize hr w) = .ok w' ∧
      ∀ {a b : World} {ia ib : List Ident}, runIssued w opsa = .ok (a, ia) → runIssued w' opsb = .ok (b, ib) →
        ia = ib ∧ Inv a ∧ Inv b ∧ Twin a b ∧ rowEqv a.res b.res = true := by
  obtain ⟨w', h1, h2, t, h6⟩ := roundtrip_twin hi hres hz hr e next
  refine ⟨w', h1, fun ra rb => ?_⟩
  obtain ⟨hiss, t'⟩ := twin_lockstep opsa opsb hops hi h2 t ra rb
  have ea := runIssued_run opsa ra
  have eb := runIssued_run opsb rb
  rw [← run_res opsa ea, ← run_res opsb eb] at h6
  exact ⟨hiss, run_inv hi opsa ea, run_inv h2 opsb eb, t', h6⟩

-- `hz` is not needed: which identifiers are issued depends on the allocators alone
set_option linter.unusedVariables false in
/-- **From then on it behaves identically: the same identifiers are issued, for ever.**  A world
and its round-tripped copy that receive the same operations (any history; `clear` visiting each
world's tables in whatever order they happen to be stored) are handed exactly the same
identifiers.  What decides the identifiers is only the allocator abstraction (`Alloc.abs`:
generation and in-use bit per slot, the free queue), which every operation transforms as a
function of itself (`step_abs`), and which a round trip preserves. -/
theorem C06_lockstep {w : World} (hi : Inv w) (hres : ResOk w) {k : Kinds} (hz : ZOk k w)
    (hr : Bool) (e next : Nat) (opsa opsb : List Op) (hops : opsa.map Op.forget = opsb.map Op.forget) :
    ∃ w', deserialize k hr w.n w.res.length e next (serialize hr w) = .ok w' ∧
      ∀ {a b : World} {ia ib : List Ident}, runIssued w opsa = .ok (a, ia) → runIssued w' opsb = .ok (b, ib) →
        ia = ib ∧ a.alloc.abs = b.alloc.abs :=
  have hde := roundtrip_closed hi hres k hr e next
  ⟨_, hde, fun ra rb => lockstep_run opsa opsb hops hi (deserialize_inv hde)
    ((retagWorld_copy hi k e next).alloc ▸ (reloc_abs _ _).symm) ra rb⟩

-- `hwt` is not needed: lock step holds along every pair of successful runs (`twin_lockstep`)
set_option linter.unusedVariables false in
/-- **"… and from then on behaves identically to the original under any further operations (same
identifiers issued, same query results up to iteration order)."**  A world and its round-tripped
copy that receive the same admissible operations — any history; `clear` in whatever order each
world's table is visited — are issued the same identifiers AND keep holding the same map from
identifiers to component values (values equal up to the component types' `PartialEq`); every query
result is a function of that map (`C03_query_exact`). -/
theorem C06_lockstep_full {w : World} (hi : Inv w) (hres : ResOk w) {k : Kinds} (hz : ZOk k w)
    (hr : Bool) (e next : Nat) (opsa opsb : List Op) (hops : opsa.map Op.forget = opsb.map Op.forget)
    (hwt : ∀ op ∈ opsa, op.wt w.n) :
    ∃ w', deserialize k hr w.n w.res.length e next (serialize hr w) = .ok w' ∧
      ∀ {a b : World} {ia ib : List Ident}, runIssued w opsa = .ok (a, ia) → runIssued w' opsb = .ok (b, ib) →
        ia = ib ∧ a.alloc.abs = b.alloc.abs ∧ ∀ id, entEqv (a.entity id) (b.entity id) = true :=
  have ⟨w', h1, h⟩ := roundtrip_stays_twin hi hres hz hr e next opsa opsb hops
  ⟨w', h1, fun ra rb => have ⟨hiss, _, _, t, _⟩ := h ra rb; ⟨hiss, t.abs, t.map⟩⟩

/-- The same for any two worlds that compare equal (a world and its clone, for instance). -/
theorem C06_equal_worlds_lockstep {x y : World} (hx : Inv x) (hy : Inv y)
    (heq : World.eqWorld x y = .ok true) (opsa opsb : List Op) (hops : opsa.map Op.forget = opsb.map Op.forget)
    {a b : World} {ia ib : List Ident} (ra : runIssued x opsa = .ok (a, ia)) (rb : runIssued y opsb = .ok (b, ib)) :
    ia = ib ∧ a.alloc.abs = b.alloc.abs :=
  lockstep_run opsa opsb hops hx hy (eqWorld_abs hx hy heq) ra rb

/-- Non-vacuity: on `twoTables`, "clear, then insert two entities" issues the identifiers of the
two freed slots in ascending order, generation 1. -/
example : opAbs twoTables.alloc.abs (.clear []) = (⟨[(0, false), (0, false)], [0, 1]⟩, []) ∧
    (opAbs ⟨[(0, false), (0, false)], [0, 1]⟩ (.extend [0] [[⟨0, 5⟩], [⟨0, 6⟩]])).2 = [⟨0, 1⟩, ⟨1, 1⟩] := by
  decide

-- `hwt` is not needed: lock step holds along every pair of successful runs (`twin_lockstep`)
set_option linter.unusedVariables false in
/-- The lock-step statement with `len()` and the resources included. -/
theorem C06_lockstep_len_res {w : World} (hi : Inv w) (hres : ResOk w) {k : Kinds} (hz : ZOk k w)
    (hr : Bool) (e next : Nat) (opsa opsb : List Op) (hops : opsa.map Op.forget = opsb.map Op.forget)
    (hwt : ∀ op ∈ opsa, op.wt w.n) :
    ∃ w', deserialize k hr w.n w.res.length e next (serialize hr w) = .ok w' ∧
      ∀ {a b : World} {ia ib : List Ident}, runIssued w opsa = .ok (a, ia) → runIssued w' opsb = .ok (b, ib) →
        ia = ib ∧ a.len = b.len ∧ rowEqv a.res b.res = true ∧
          ∀ id, entEqv (a.entity id) (b.entity id) = true :=
  have ⟨w', h1, h⟩ := roundtrip_stays_twin hi hres hz hr e next opsa opsb hops
  ⟨w', h1, fun ra rb => have ⟨hiss, ha, hb, t, hres'⟩ := h ra rb; ⟨hiss, twin_len ha hb t, hres', t.map⟩⟩

-- `hwt` is not needed: lock step holds along every pair of successful runs (`twin_lockstep`)
set_option linter.unusedVariables false in
/-- … "same query results up to iteration order": after the same operations, every query returns,
for the original and for the round-tripped copy, the views of the same entities with equivalent
values (each row of the original's result has its counterpart in the copy's; the other way round:
`C06_lockstep_queries_rev`). -/
theorem C06_lockstep_queries {w : World} (hi : Inv w) (hres : ResOk w) {k : Kinds} (hz : ZOk k w)
    (hr : Bool) (e next : Nat) (opsa opsb : List Op) (hops : opsa.map Op.forget = opsb.map Op.forget)
    (hwt : ∀ op ∈ opsa, op.wt w.n) :
    ∃ w', deserialize k hr w.n w.res.length e next (serialize hr w) = .ok w' ∧
      ∀ {a b : World} {ia ib : List Ident}, runIssued w opsa = .ok (a, ia) → runIssued w' opsb = .ok (b, ib) →
        ∀ (vs : List View) (f : Filter), ∃ ra rb, a.query vs f = .ok ra ∧ b.query vs f = .ok rb ∧
          ∀ row ∈ ra, ∃ id vals vals', a.entity id = some vals ∧ b.entity id = some vals' ∧
            rowEqv vals vals' = true ∧ row = vs.map (Spec.cellOf ⟨id, vals⟩) ∧
            vs.map (Spec.cellOf ⟨id, vals'⟩) ∈ rb :=
  have ⟨w', h1, h⟩ := roundtrip_stays_twin hi hres hz hr e next opsa opsb hops
  ⟨w', h1, fun ra rb vs f => have ⟨_, ha, hb, t, _⟩ := h ra rb; twin_query ha hb t vs f⟩

-- `hwt` is not needed: lock step holds along every pair of successful runs (`twin_lockstep`)
set_option linter.unusedVariables false in
/-- … and conversely: every row the copy's query returns has its counterpart in the original's. -/
theorem C06_lockstep_queries_rev {w : World} (hi : Inv w) (hres : ResOk w) {k : Kinds} (hz : ZOk k w)
    (hr : Bool) (e next : Nat) (opsa opsb : List Op) (hops : opsa.map Op.forget = opsb.map Op.forget)
    (hwt : ∀ op ∈ opsa, op.wt w.n) :
    ∃ w', deserialize k hr w.n w.res.length e next (serialize hr w) = .ok w' ∧
      ∀ {a b : World} {ia ib : List Ident}, runIssued w opsa = .ok (a, ia) → runIssued w' opsb = .ok (b, ib) →
        ∀ (vs : List View) (f : Filter), ∃ rb ra, b.query vs f = .ok rb ∧ a.query vs f = .ok ra ∧
          ∀ row ∈ rb, ∃ id vals vals', b.entity id = some vals ∧ a.entity id = some vals' ∧
            rowEqv vals vals' = true ∧ row = vs.map (Spec.cellOf ⟨id, vals⟩) ∧
            vs.map (Spec.cellOf ⟨id, vals'⟩) ∈ ra :=
  have ⟨w', h1, h⟩ := roundtrip_stays_twin hi hres hz hr e next opsa opsb hops
  ⟨w', h1, fun ra rb vs f => have ⟨_, ha, hb, t, _⟩ := h ra rb; twin_query hb ha t.symm vs f⟩

/-- **Values produced by deserialization are owned independently** (C04): the round-tripped world
owns exactly one re-tagged copy per value of the original, in the same order — nothing shared,
nothing missing, nothing extra. -/
theorem C06_roundtrip_owns_copies {w : World} (hi : Inv w) (hres : ResOk w) (k : Kinds) (hr : Bool)
    (e next : Nat) :
    ∃ w', deserialize k hr w.n w.res.length e next (serialize hr w) = .ok w' ∧
      w'.values = w.values.map (retag k e) :=
  ⟨_, roundtrip_closed hi hres k hr e next, values_of_renumbered rfl rfl⟩

/-! ### the hypotheses hold along histories -/

/-- A value that may be stored: zero-sized kinds carry no identity. -/
def ZVal (k : Kinds) (v : Val) : Prop := k.kindOf v.ty = 'z' → v.base = 0

theorem runD_values_subset (ops : List Op) {w w' : World} (hi : Inv w) (hwt : ∀ op ∈ ops, op.wt w.n)
    {d i : List Val} (e : runD w ops = .ok (w', d, i)) : ∀ x ∈ w'.values, x ∈ w.values ∨ x ∈ i :=
  fun _ hx => List.mem_append.mp ((runD_law ops hi hwt e).mem_iff.mp (List.mem_append_left d hx))

/-- **Every world of every history round-trips**: start from resources typed by position, move
in only values whose zero-sized kinds carry no identity — then after any history of admissible
operations the world serializes and deserializes, in both encodings, to a world equal to it. -/
theorem C06_roundtrip_history (k : Kinds) (ops : List Op) :
    ∀ {w w' : World} {d i : List Val}, Inv w → ResOk w → ZOk k w → (∀ op ∈ ops, op.wt w.n) →
      runD w ops = .ok (w', d, i) → (∀ v ∈ i, ZVal k v) →
      ∀ (hr : Bool) (e next : Nat), RoundTrips k hr e next w' := by
  intro w w' d i hi hres hz hwt h hiv
  have hrun := runD_run ops h
  have hres' : ResOk w' := by
    unfold ResOk at hres ⊢
    rw [run_res ops hrun]
    exact hres
  exact C06_roundtrip (run_inv hi ops hrun) hres' fun v hv =>
    (runD_values_subset ops hi hwt h v hv).elim (hz v) (hiv v)

/-- A round trip preserves what the next round trip needs (`ResOk`, `ZOk` for non-zero-sized
kinds is about base identities, which `retag` keeps). -/
theorem C06_retag_keeps (k : Kinds) (e : Nat) (v : Val) :
    (retag k e v).ty = v.ty ∧ (k.kindOf v.ty = 'z' → (retag k e v).base = 0) ∧
    (k.kindOf v.ty ≠ 'z' → (retag k e v).base = v.base) :=
  ⟨retag_ty k e v, retag_base_zst e, retag_base e⟩

/-- Non-vacuity + test by kernel evaluation: a reachable world with two tables, a freed slot and a
reused slot round-trips in both encodings and compares equal; its hypotheses hold. -/
example :
    (match run (World.init 3 [⟨100, 7⟩])
        [.insert [1, 0] [⟨1, 11⟩, ⟨0, 10⟩], .insert [2] [⟨2, 20⟩], .insert [2] [⟨2, 21⟩], .remove ⟨1, 0⟩,
         .insert [0] [⟨0, 12⟩], .remove ⟨0, 0⟩] with
     | .ok w =>
       [true, false].map (fun hr =>
         match deserialize ⟨['s', 's', 's'], ['s']⟩ hr 3 1 1 50 (serialize hr w) with
         | .ok w' => (match World.eqWorld w w' with | .ok r => r | .ub _ => false) && w'.len == w.len
         | .error _ => false)
     | .ub _ => []) = [true, true] := by decide +kernel

end Brood

#print axioms Brood.C06_roundtrip
#print axioms Brood.C06_roundtrip_reachable
#print axioms Brood.C06_same_next_identifier
#print axioms Brood.C06_result_behaves
#print axioms Brood.C06_retag_keeps
#print axioms Brood.C06_roundtrip_history
#print axioms Brood.C06_clear_order_independent
#print axioms Brood.C06_lockstep
#print axioms Brood.C06_equal_worlds_lockstep
#print axioms Brood.C06_lockstep_full
#print axioms Brood.C06_lockstep_len_res
#print axioms Brood.C06_lockstep_queries
#print axioms Brood.C06_roundtrip_owns_copies
#print axioms Brood.C06_lockstep_queries_rev
