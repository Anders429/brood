/-
  C07 — Running a schedule equals running its tasks one by one in declared order.

  Proved, for every schedule, over the tables generated from the source.  Static: the stager
  places every task exactly once, in the order written, in non-empty groups whose members are
  pairwise compatible (that a group boundary exists only where a conflict exists is
  `C12_boundaries_justified`).  Run time (`Lemmas/SchedDyn`, `Lemmas/SchedSem`): `phaseTasks` is
  the stage runner of stage.rs as lists of tasks — per stage, the tasks not yet run plus the
  next-stage tasks the add-on check starts early.  `C07_sequential_equivalence`: for every schedule
  of well-formed tasks, every set of archetypes, and every task semantics that respects the tasks'
  claims (`apTask`: a cell changes only if claimed mutably, new values depend only on claimed
  cells), running the phases one after the other — the tasks of a phase in ANY order — ends in the
  same state as running the tasks one by one in declared order; every task runs exactly once
  (`C07_each_task_once`).  Tasks are not atomic: `C07_interleaving_equivalence` takes every task as
  a *program* (a list of steps, each a claim-respecting state transformer) and a run as, phase
  after phase, ANY interleaving of the programs of the phase's tasks (`IsInterleaving`: each task's
  steps in program order, steps of different tasks in any order); the final state is that of the
  declared-order sequential run (`Lemmas/Interleave`).

  Left to the correspondence check: that the real stage runner goes through the model's phases
  (its fork/join log against `phases`, the index form of `phaseTasks`:
  `C07_phases_name_these_tasks`), and the outcome itself — a generated family of schedule types,
  run under scripted fork/join orders and on real pools, against the same systems run one by one.
  PARTIAL: steps are atomic and sequentially consistent (for data-race-free bodies that is the Rust
  memory model's guarantee, not proved here), and that the real systems respect their claims is
  C03/C14.
-/
import BroodModel.Lemmas.Interleave

namespace Brood
open Static Generated

/-- Every task of the schedule is staged exactly once, in the order written. -/
theorem C07_staged_once (ts : List Task) :
    (stages verifierTable mergerTable ts).flatten = ts := stages_flatten _ _ ts

/-- No stage is empty (so no fork/join nest is created for nothing). -/
theorem C07_no_empty_stage (ts : List Task) :
    ∀ g ∈ stages verifierTable mergerTable ts, g ≠ [] := stagesAux_nonempty _ _ ts []

/-- Tasks sharing a stage have compatible claims: none writes what another accesses. -/
theorem C07_stage_mates_compatible (ts : List Task) :
    ∀ g ∈ stages verifierTable mergerTable ts, Compatible g :=
  stages_compatible ts

/-- The number of staged tasks is the number of tasks. -/
theorem C07_count (ts : List Task) :
    ((stages verifierTable mergerTable ts).map List.length).sum = ts.length := by
  have := congrArg List.length (C07_staged_once ts)
  simpa [List.length_flatten] using this

example : (stages verifierTable mergerTable
    [⟨[.ref 0], .none, [], []⟩, ⟨[.ref 2], .none, [], []⟩, ⟨[.mut 2], .none, [], []⟩]).map List.length = [2, 1] := by decide

/-- **Running a schedule equals running its tasks one by one in declared order.** -/
theorem C07_sequential_equivalence {n nres : Nat} {masks : List Mask} (hm : masks.Nodup)
    (g : Task → (SCell → Nat) → SCell → Nat) (ts : List Task) (hwf : ∀ t ∈ ts, t.WF)
    (perms : List (List Task))
    (hp : PhasePerm perms (phaseTasks n nres masks (stages verifierTable mergerTable ts)
      (((stages verifierTable mergerTable ts).headD []).map (fun _ => false))))
    (s : SCell → Nat) :
    runSeq (apTask n nres masks g) perms.flatten s = runSeq (apTask n nres masks g) ts s := by
  have := phases_seq_equiv (apTask n nres masks g) hm (fun u t h s => apTask_comm n nres masks g g h s)
    _ _ perms (stages_pairwise n nres masks ts hwf) (List.length_map _) hp s
  rwa [accepted_all_false, List.nil_append, stages_flatten] at this

/-- A step of a task under the footprint semantics: any transformer `γ` restricted to the task's
claims (cells change only where claimed mutably; new values depend only on claimed cells). -/
def apStep (n nres : Nat) (masks : List Mask) (t : Task) (γ : (SCell → Nat) → SCell → Nat)
    (s : SCell → Nat) : SCell → Nat :=
  apTask n nres masks (fun _ => γ) t s

/-- **Running a schedule equals running its tasks one by one — at step granularity.**  Every task
is a program `prog t` of claim-respecting steps; `trs` gives, for each phase of the stage runner,
an arbitrary interleaving of the programs of that phase's tasks.  The final state is the one of
the declared-order sequential run of the whole tasks. -/
theorem C07_interleaving_equivalence {n nres : Nat} {masks : List Mask} (hm : masks.Nodup)
    (prog : Task → List ((SCell → Nat) → SCell → Nat)) (ts : List Task) (hwf : ∀ t ∈ ts, t.WF)
    (trs : List (List (Nat × ((SCell → Nat) → SCell → Nat))))
    (htr : TracesOf prog trs (phaseTasks n nres masks (stages verifierTable mergerTable ts)
      (((stages verifierTable mergerTable ts).headD []).map (fun _ => false))))
    (s : SCell → Nat) :
    runTraces (apStep n nres masks) trs (phaseTasks n nres masks (stages verifierTable mergerTable ts)
      (((stages verifierTable mergerTable ts).headD []).map (fun _ => false))) s =
      runSeq (apProg (apStep n nres masks) prog) ts s := by
  have := phases_interleaving_equiv (apStep n nres masks) prog hm
    (fun u t h a b s' => apTask_comm n nres masks (fun _ => a) (fun _ => b) h s')
    _ _ (stages_pairwise n nres masks ts hwf) (List.length_map _) trs htr s
  rwa [accepted_all_false, stages_flatten] at this

/-- The premise is satisfiable by genuinely interleaved traces: two tasks of two steps each, the
steps alternating and the second task finishing first. -/
example (t0 t1 : Task) : IsInterleaving (fun _ => [1, 2]) [t0, t1] [(0, 1), (1, 1), (1, 2), (0, 2)] := by
  intro i
  match i with
  | 0 => rfl
  | 1 => rfl
  | i + 2 => rfl

/-- The phases the driver prints and the correspondence check compares with the real fork/join log
(`phases`, as `(stage, position)` pairs) name exactly the tasks of `phaseTasks`. -/
theorem C07_phases_name_these_tasks (n nres : Nat) (masks : List Mask) (sts : List (List Task)) :
    (phases claimTryMerge n nres masks sts).map (fun ph => ph.filterMap (idxTask sts 0)) =
      phaseTasks n nres masks sts ((sts.headD []).map (fun _ => false)) :=
  runStages_tasks n nres masks sts 0 _ (idxTask sts 0) fun i j => by
    rw [idxTask, if_neg (Nat.not_lt_zero _), Nat.zero_add, Nat.sub_zero]

/-- Every task runs exactly once: the phases, flattened, are a permutation of the tasks. -/
theorem C07_each_task_once {n nres : Nat} {masks : List Mask} :
    ∀ (sts : List (List Task)) (hasRun : List Bool), hasRun.length = (sts.headD []).length →
      (accepted (sts.headD []) hasRun ++ (phaseTasks n nres masks sts hasRun).flatten).Perm sts.flatten := by
  intro sts hasRun hl
  obtain ⟨perms, hp, he⟩ := phaseTasks_stages n nres masks sts hasRun hl
  exact he ▸ hp.flatten_perm

end Brood

#print axioms Brood.C07_staged_once
#print axioms Brood.C07_no_empty_stage
#print axioms Brood.C07_stage_mates_compatible
#print axioms Brood.C07_count
#print axioms Brood.C07_sequential_equivalence
#print axioms Brood.C07_interleaving_equivalence
#print axioms Brood.C07_each_task_once
#print axioms Brood.C07_phases_name_these_tasks
