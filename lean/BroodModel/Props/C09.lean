/-
  C09 — Parallel queries visit exactly what sequential queries visit, once each.

  Proved for *every* split tree (every pool size and split pattern): the leaves of a split tree
  partition the sequence in order, so collecting the leaves yields exactly the sequential items,
  each once; the `None` filler splits consistently with the column producers, so zipped leaves
  reproduce the sequential zip.  PARTIAL: rayon's `bridge`, `MultiZip`, the splitter heuristics and
  hashbrown's parallel bucket iterator are assumed to implement this plumbing contract (each item
  to exactly one leaf); the correspondence run compares `par_query` on pools of 1, 2, 3, 8 and 16
  threads (three consumption modes) with the model's and the L0 spec's sequential answer, and checks
  address-disjointness of all mutable items handed out in one parallel iteration.
  At the level of worlds (`Lemmas/ParL`, `Lemmas/ParAddr`): the rows handed out are a permutation
  of `query`'s rows (`C09_par_query_is_query`); over all of them the mutable addresses
  (archetype, row, component) are pairwise distinct (`C09_mut_access_disjoint`); and updates that
  touch only their own row end in the same state in the parallel order as in the sequential order
  (`C09_independent_updates_eq_sequential`).
-/
import BroodModel.Lemmas.ParAddr

namespace Brood

/-- The leaves of any split tree concatenate to the original sequence: every item is visited,
exactly once, nothing else. -/
theorem C09_pieces_flatten {α} (t : Split) (xs : List α) : t.collect xs = xs :=
  collect_eq t xs

/-- The number of items handed out equals the sequential count, whatever the tree. -/
theorem C09_count {α} (t : Split) (xs : List α) : ((t.pieces xs).map List.length).sum = xs.length := by
  have := congrArg List.length (C09_pieces_flatten t xs)
  simpa [Split.collect, List.length_flatten] using this

/-- Splitting the `None` filler at `i` leaves `count` items in total and both halves are fillers. -/
theorem C09_repeat_none_split (count i : Nat) :
    (repeatNoneSplit count i).1 + (repeatNoneSplit count i).2 = count ∧
    (repeatNone count).take i = repeatNone (repeatNoneSplit count i).1 ∧
    (repeatNone count).drop i = repeatNone (repeatNoneSplit count i).2 := by
  refine ⟨?_, List.take_replicate, List.drop_replicate⟩
  show min i count + (count - i) = count
  omega

-- `h` states the situation in the source (columns of one archetype have one length); the
-- equation holds of any two lists (`zipPieces_eq`)
set_option linter.unusedVariables false in
/-- **Zipping leaf by leaf equals the sequential zip**: a column (or the `None` filler) split
together with the other columns reproduces exactly the sequential rows — no row dropped at a split
point, none duplicated. -/
theorem C09_zip_pieces {α β} (t : Split) (xs : List α) (ys : List β) (h : xs.length = ys.length) :
    zipPieces t xs ys = List.zip xs ys :=
  zipPieces_eq t xs ys

/-- **At the level of worlds**: `par_query` over the archetype table traversed in any order, every
archetype's rows split by any tree, hands out a permutation of the rows the sequential `query`
returns — which (C03) are exactly one row per matching live entity, with that entity's values. -/
theorem C09_par_query_is_query {w : World} (hi : Inv w) (vs : List View) (f : Filter)
    (trees : Arch → Split) {visit : List Arch} (hp : visit.Perm w.archs) :
    ∃ rows, parQueryArchs vs f trees visit = .ok rows ∧
      rows.Perm (Spec.query w.n ⟨w.ents, w.res, []⟩ vs f) ∧
      ∃ seq, w.query vs f = .ok seq ∧ rows.Perm seq := by
  obtain ⟨rows, h1, h2⟩ := par_query_perm hi vs f trees hp
  exact ⟨rows, h1, h2, _, query_eq_spec hi vs f, h2⟩

/-- **No two results handed out during one parallel iteration give mutable access to the same
component value.**  `parAddrRows` lists, per result row, the (archetype, row, component) addresses
the row's `&mut` / `Option<&mut>` views point at; for every traversal order and every split
trees, all of them are pairwise distinct — provided the views name no component twice mutably,
which the type system enforces (C14, `views2 … same`). -/
theorem C09_mut_access_disjoint {w : World} (hi : Inv w) (vs : List View)
    (hv : (vs.filterMap View.mutComp).Nodup) (f : Filter) (trees : Arch → Split)
    {visit : List Arch} (hp : visit.Perm w.archs) :
    (parAddrRows vs f trees visit).flatten.Nodup :=
  par_mut_addrs_nodup vs hv f trees ((hp.map (·.mask)).nodup_iff.mpr hi.masks_nodup)

/-- **The outcome of a parallel system that updates each entity independently equals that of its
sequential counterpart**: for every update `g` that touches only its own row (`apRow`), running it
over the rows in the order a parallel iteration hands them out ends in the state of running it in
the sequential query's order. -/
theorem C09_independent_updates_eq_sequential {w : World} (hi : Inv w) (vs : List View) (f : Filter)
    (trees : Arch → Split) {visit : List Arch} (hp : visit.Perm w.archs)
    (g : Mask × Nat → (Addr → Nat) → Addr → Nat) (s : Addr → Nat) :
    runSeq (apRow g) (parRowKeys vs f trees visit) s = runSeq (apRow g) (seqRowKeys vs f w.archs) s :=
  par_row_updates_eq_seq hi.masks_nodup hp vs f trees g s

/-- Non-vacuity: two mutable views of different components over a two-row archetype give four
distinct addresses; the split tree does not matter. -/
example :
    parAddrRows [.mut 0, .omut 1] .none (fun _ => .node 1 .leaf .leaf)
      [⟨0, [true, true], [⟨0, 0⟩, ⟨1, 0⟩], [[⟨0, 1⟩, ⟨0, 2⟩], [⟨1, 3⟩, ⟨1, 4⟩]]⟩] =
    [[([true, true], 0, 0), ([true, true], 0, 1)], [([true, true], 1, 0), ([true, true], 1, 1)]] := by
  decide

example : (Split.node 2 (.node 1 .leaf .leaf) .leaf).pieces [10, 20, 30] = [[10], [20], [30]] := by decide

end Brood

#print axioms Brood.C09_pieces_flatten
#print axioms Brood.C09_count
#print axioms Brood.C09_repeat_none_split
#print axioms Brood.C09_zip_pieces
#print axioms Brood.C09_par_query_is_query
#print axioms Brood.C09_mut_access_disjoint
#print axioms Brood.C09_independent_updates_eq_sequential
