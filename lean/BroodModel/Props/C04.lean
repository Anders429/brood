/-
  C04 — Every component value is dropped exactly once.

  Values carry identities (`Val.id`, the ledger identity the harness gives every component), so
  "exactly once" is a statement about multisets: after any history, the values the world owns
  (`World.values`: what dropping the world drops) together with everything dropped so far are a
  permutation of the resources and component values moved in so far.  The per-operation theorems
  say *when* a value is dropped: `remove` drops that entity's row, `Entry::add` on a present
  component drops the old value, `Entry::remove` drops the detached value, `clear` drops every
  stored value, a write drops the overwritten value, and nothing else is dropped.

  `clone` owns copies with identities of their own (`C04_clone_owns_copies`); `clone_from` drops
  exactly what the destination owned, each value once (`C04_clone_from_drops`) and then owns
  copies of the source (C10).  Ownership of deserialized values and what a failing
  deserialization drops are decided by the correspondence check's ledger.
-/
import BroodModel.Lemmas.Ledger
import BroodModel.Lemmas.CloneFrom

namespace Brood

/-! ### the canonical row is a permutation of the written values -/

theorem mem_zip_map_ty {vals : List Val} {c : Nat} {v : Val} :
    (c, v) ∈ (vals.map (·.ty)).zip vals ↔ v ∈ vals ∧ c = v.ty := by
  have : (vals.map (·.ty)).zip vals = vals.map fun v => (v.ty, v) := by
    simp [List.zip_eq_zipWith, List.zipWith_map_left, List.zipWith_self]
  simp only [this, List.mem_map, Prod.mk.injEq]
  exact ⟨fun ⟨_, h, h1, h2⟩ => h2 ▸ ⟨h, h1.symm⟩, fun ⟨h, h1⟩ => ⟨v, h, h1.symm, rfl⟩⟩

theorem nodup_of_map_ty {l : List Val} (h : (l.map (·.ty)).Nodup) : l.Nodup :=
  (List.pairwise_map.mp h).imp fun hne e => hne (congrArg _ e)

theorem canonVals_perm {n : Nat} {shape : List Nat} {vals : List Val}
    (h : World.shapeOk n shape vals = true) : (World.canonVals n shape vals).Perm vals := by
  have htys := canonVals_tys h
  simp only [World.shapeOk, Bool.and_eq_true, beq_iff_eq, decide_eq_true_eq, List.all_eq_true] at h
  obtain ⟨⟨hnd, hall⟩, rfl⟩ := h
  -- both lists are duplicate-free, and a value is looked up under its own component
  refine (List.perm_ext_iff_of_nodup (nodup_of_map_ty (htys ▸ comps_nodup _)) (nodup_of_map_ty hnd)).mpr fun v => ?_
  have hkeys : (((vals.map (·.ty)).zip vals).map (·.1)).Nodup := by
    rw [List.map_fst_zip (by simp)]; exact hnd
  simp only [World.canonVals, List.mem_filterMap, List.mem_range, lookup_some_iff hkeys, mem_zip_map_ty]
  exact ⟨fun ⟨c, _, hv, _⟩ => hv, fun hv => ⟨v.ty, hall v.ty (List.mem_map_of_mem hv), hv, rfl⟩⟩

/-! ### operations with their drops and the values moved in -/

/-- One step, returning the new world, the values dropped by the step and the values moved into
the world by the step (the caller keeps a value that `Entry::add` / a write did not consume). -/
def stepD (w : World) : Op → Out (World × List Val × List Val)
  | .insert shape vals =>
    match w.insert shape vals with
    | .ok (w', _) => .ok (w', [], vals)
    | .ub e => .ub e
  | .extend shape rows =>
    match w.extend shape rows with
    | .ok (w', _) => .ok (w', [], rows.flatten)
    | .ub e => .ub e
  | .remove id =>
    match w.remove id with
    | .ok (w', d) => .ok (w', d, [])
    | .ub e => .ub e
  | .clear order =>
    match w.clear order with
    | .ok (w', d) => .ok (w', d, [])
    | .ub e => .ub e
  | .add id c v =>
    match w.entryAdd id c v with
    | .ok (w', r) => .ok (w', r.getD [], if r.isSome then [v] else [])
    | .ub e => .ub e
  | .del id c =>
    match w.entryRemove id c with
    | .ok (w', r) => .ok (w', r.getD [], [])
    | .ub e => .ub e
  | .write id c v =>
    match w.write id c v with
    | .ok (w', r) => .ok (w', r.getD [], if r.isSome then [v] else [])
    | .ub e => .ub e
  | .reserve shape =>
    match w.reserve shape with
    | .ok w' => .ok (w', [], [])
    | .ub e => .ub e
  | .shrink => .ok (w.shrinkToFit, [], [])

theorem fstOut_stepD (w : World) (op : Op) : fstOut (stepD w op) = step w op := by
  unfold stepD step
  cases op with
  | insert shape vals => dsimp only; cases w.insert shape vals <;> rfl
  | extend shape rows => dsimp only; cases w.extend shape rows <;> rfl
  | remove id => dsimp only; cases w.remove id <;> rfl
  | clear order => dsimp only; cases w.clear order <;> rfl
  | add id c v => dsimp only; cases w.entryAdd id c v <;> rfl
  | del id c => dsimp only; cases w.entryRemove id c <;> rfl
  | write id c v => dsimp only; cases w.write id c v <;> rfl
  | reserve shape => dsimp only; cases w.reserve shape <;> rfl
  | shrink => rfl

theorem stepD_step {w w' : World} {op : Op} {d i : List Val} (e : stepD w op = .ok (w', d, i)) :
    step w op = .ok w' := by
  rw [← fstOut_stepD, e]; rfl

theorem flatten_map_perm {α} {f : List α → List α} (rows : List (List α)) (h : ∀ r ∈ rows, (f r).Perm r) :
    (rows.map f).flatten.Perm rows.flatten := by
  induction rows with
  | nil => rfl
  | cons r rs ih =>
    exact (h r List.mem_cons_self).append (ih fun y hy => h y (List.mem_cons_of_mem _ hy))

/-- **Conservation, one step**: owned-after + dropped = owned-before + moved-in, for every value. -/
theorem C04_step (x : Val) {w w' : World} (hi : Inv w) {op : Op} (hwt : op.wt w.n) {d i : List Val}
    (e : stepD w op = .ok (w', d, i)) : w'.cnt x + d.count x = w.cnt x + i.count x := by
  cases op with
  | insert shape vals =>
    simp only [stepD] at e
    split at e <;> cases e
    rename_i nid h
    simpa [(canonVals_perm hwt).count_eq] using insert_cnt x hi h
  | extend shape rows =>
    simp only [stepD] at e
    split at e <;> cases e
    rename_i ids h
    simpa [(flatten_map_perm rows fun r hr => canonVals_perm (hwt r hr)).count_eq x] using extend_cnt x hi h
  | remove id =>
    simp only [stepD] at e
    split at e <;> cases e
    exact remove_cnt x hi ‹_›
  | clear order =>
    simp only [stepD] at e
    split at e <;> cases e
    exact clear_cnt x hi ‹_›
  | add id c v =>
    simp only [stepD] at e
    split at e <;> cases e
    exact entryAdd_cnt x hi ‹_›
  | del id c =>
    simp only [stepD] at e
    split at e <;> cases e
    exact entryRemove_cnt x hi ‹_›
  | write id c v =>
    simp only [stepD] at e
    split at e <;> cases e
    exact write_cnt x hi ‹_›
  | reserve shape =>
    simp only [stepD] at e
    split at e <;> cases e
    exact reserve_cnt x hi ‹_›
  | shrink =>
    cases e
    exact shrink_cnt x hi

/-- A history with its accumulated drops and moved-in values. -/
def runD (w : World) : List Op → Out (World × List Val × List Val)
  | [] => .ok (w, [], [])
  | op :: ops =>
    match stepD w op with
    | .ub e => .ub e
    | .ok (w1, d1, i1) =>
      match runD w1 ops with
      | .ub e => .ub e
      | .ok (w', d, i) => .ok (w', d1 ++ d, i1 ++ i)

theorem runD_cons_eq_ok {w w' : World} {op : Op} {ops : List Op} {d i : List Val}
    (e : runD w (op :: ops) = .ok (w', d, i)) :
    ∃ w1 d1 i1 d2 i2, stepD w op = .ok (w1, d1, i1) ∧ runD w1 ops = .ok (w', d2, i2) ∧
      d = d1 ++ d2 ∧ i = i1 ++ i2 := by
  simp only [runD] at e
  split at e
  · cases e
  split at e <;> cases e
  exact ⟨_, _, _, _, _, ‹_›, ‹_›, rfl, rfl⟩

theorem runD_run (ops : List Op) {w w' : World} {d i : List Val} (e : runD w ops = .ok (w', d, i)) :
    run w ops = .ok w' := by
  induction ops generalizing w d i with
  | nil => cases e; rfl
  | cons op ops ih =>
    obtain ⟨w1, _, _, _, _, h1, h2, -, -⟩ := runD_cons_eq_ok e
    simp only [run, stepD_step h1, ih h2]

theorem runD_law (ops : List Op) {w w' : World} {d i : List Val} (hi : Inv w)
    (hwt : ∀ op ∈ ops, op.wt w.n) (e : runD w ops = .ok (w', d, i)) :
    (w'.values ++ d).Perm (w.values ++ i) := by
  refine List.perm_iff_count.mpr fun x => ?_
  rw [List.count_append, List.count_append, ← World.cnt_eq, ← World.cnt_eq]
  induction ops generalizing w d i with
  | nil => cases e; rfl
  | cons op ops ih =>
    obtain ⟨w1, d1, i1, d2, i2, h1, h2, rfl, rfl⟩ := runD_cons_eq_ok e
    have hs := stepD_step h1
    have c1 := C04_step x hi (hwt op List.mem_cons_self) h1
    have c2 := ih (step_inv hi hs) (fun o ho => step_n hs ▸ hwt o (List.mem_cons_of_mem _ ho)) h2
    simp only [List.count_append]
    omega

/-- **Conservation over every history**: what the world owns at the end (the values dropping it
would drop) together with everything dropped along the way is a permutation of the resources and
component values moved in.  No value is lost, none is dropped twice, none is dropped while still
owned. -/
theorem C04_conservation (n : Nat) (res : List Val) (ops : List Op) (hwt : ∀ op ∈ ops, op.wt n)
    {w : World} {d i : List Val} (e : runD (World.init n res) ops = .ok (w, d, i)) :
    (w.values ++ d).Perm (res ++ i) :=
  runD_law ops (inv_init n res) hwt e

/-- If every value moved in has its own identity, then no value is dropped twice, no dropped value
is still owned, and every value moved in is either still owned or has been dropped. -/
theorem C04_exactly_once (n : Nat) (res : List Val) (ops : List Op) (hwt : ∀ op ∈ ops, op.wt n)
    {w : World} {d i : List Val} (e : runD (World.init n res) ops = .ok (w, d, i))
    (hdistinct : (res ++ i).Nodup) :
    d.Nodup ∧ w.values.Nodup ∧ (∀ v ∈ d, v ∉ w.values) ∧ (∀ v ∈ res ++ i, v ∈ w.values ∨ v ∈ d) := by
  have hp := C04_conservation n res ops hwt e
  have hn : (w.values ++ d).Nodup := hp.symm.nodup hdistinct
  rw [List.nodup_append] at hn
  refine ⟨hn.2.1, hn.1, fun v hv hw => hn.2.2 v hw v hv rfl, ?_⟩
  intro v hv
  have := hp.symm.mem_iff.mp hv
  simpa using this

/-! ### when values are dropped -/

/-- `remove` drops exactly the removed entity's values; a dead identifier drops nothing. -/
theorem C04_remove_drops {w w' : World} {id : Ident} {drops : List Val} (hi : Inv w)
    (e : w.remove id = .ok (w', drops)) : drops = (w.entity id).getD [] :=
  (remove_entity hi e).2.2.1

/-- **Replaced by `clone_from`**: the values dropped by `clone_from` are exactly the component
values and resources the destination owned before, each once — whether their table was
overwritten in place or cleared because the source has no table of that shape. -/
theorem C04_clone_from_drops {d s fin : World} {drops : List Val} (hd : Inv d) (hs : Inv s)
    (hn : d.n = s.n) {e : Nat} (h : World.cloneFrom d s e = .ok (fin, drops)) : drops.Perm d.values :=
  cloneFrom_drops hd hs hn h

-- `hi` says for which worlds the property is claimed; what `clone` returns is a closed form of its
-- argument whether or not the invariant holds
set_option linter.unusedVariables false in
/-- **Values produced by `clone` are owned independently**: the clone owns one copy per value of
the original (same order), and a copy's ledger identity differs from every identity of epoch 0. -/
theorem C04_clone_owns_copies {w w' : World} (hi : Inv w) {e next : Nat} (h : w.clone e next = .ok w') :
    w'.values = w.values.map (cloneVal e) ∧
    (0 < e → ∀ v ∈ w'.values, ∀ u : Val, u.id < epochBase → v.id ≠ u.id) := by
  refine ⟨clone_values h, ?_⟩
  intro he v hv u hu
  rw [clone_values h] at hv
  obtain ⟨v0, _, rfl⟩ := List.mem_map.mp hv
  exact fun e' => absurd (e' ▸ cloneVal_id_ge e v0 he) (Nat.not_le_of_lt hu)

/-- Non-vacuity: a history with drops, evaluated. -/
example :
    (match runD (World.init 3 [⟨9, 90⟩])
      [.insert [1, 0] [⟨1, 11⟩, ⟨0, 10⟩], .add ⟨0, 0⟩ 1 ⟨1, 12⟩, .del ⟨0, 0⟩ 0, .remove ⟨0, 0⟩] with
     | .ok (w, d, i) => (w.values, d, i)
     | .ub _ => ([], [], [])) =
    ([⟨9, 90⟩], [⟨1, 11⟩, ⟨0, 10⟩, ⟨1, 12⟩], [⟨1, 11⟩, ⟨0, 10⟩, ⟨1, 12⟩]) := by decide

end Brood

#print axioms Brood.canonVals_perm
#print axioms Brood.C04_step
#print axioms Brood.C04_conservation
#print axioms Brood.C04_exactly_once
#print axioms Brood.C04_remove_drops
#print axioms Brood.C04_clone_from_drops
#print axioms Brood.C04_clone_owns_copies
