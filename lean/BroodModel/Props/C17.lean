/-
  C17 — A panic in user code never leads to double drops or invalid memory.

  The full statement is FALSE on the current tree (recorded findings): a `Drop` panic inside
  `World::remove` (non-last row) and a `Clone` / `Drop` panic inside `World::clone_from` leave
  columns and the shared length inconsistent, so values are dropped a second time when the world
  is dropped.  Proved here: on the model of the interrupted column loops (`BroodModel.Fault`), the
  mechanism of the (repaired) `clear` finding, for every column layout, that the length-first
  order is panic safe (leaks at worst), and the mechanism of the recorded `World::remove` finding,
  for every column layout and row, and of the recorded `World::clone_from` finding; on the world
  model, for `Entry::remove`, that dropping the detached component in the middle of the row move is
  not panic safe (witness) while dropping it last is.  The fault-enumeration run checks every
  (operation, callback, position) on the real crate; the pairs the table `faultSafe`
  (`BroodModel.Fault`) calls safe must show no double drop, no allocator error, no crash.  PARTIAL:
  unwinding itself, `Vec`'s internal guards and rayon's panic propagation are modelled from their
  documentation.
-/
import BroodModel.Fault
import BroodModel.Lemmas.Ledger

namespace Brood

theorem RawArch.mem_dropAll {len : Nat} {cols : List (List Val)} {c : List Val} {v : Val}
    (hc : c ∈ cols) (hl : c.length = len) (hv : v ∈ c) : v ∈ (RawArch.mk len cols).dropAll :=
  List.mem_flatMap.mpr ⟨c, hc, by rw [← hl, List.take_length]; exact hv⟩

/-- **The `clear` finding, for every layout**: if clearing is interrupted by a `Drop` panic in
column `j`, every value of columns `0..=j` (that the shared length still covers) is dropped again
when the archetype is dropped. -/
theorem C17_clear_drop_panic_double_drop (cols : List (List Val)) (j : Nat)
    (hlen : ∀ c ∈ cols, c.length = (cols.headD []).length) :
    let (d1, st) := clearFault cols j
    ∀ v ∈ d1, v ∈ st.dropAll := by
  intro v hv
  obtain ⟨c, hc, hvc⟩ := List.mem_flatten.mp hv
  have hcm : c ∈ cols := List.mem_of_mem_take hc
  exact RawArch.mem_dropAll hcm (hlen c hcm) hvc

def witnessCols : List (List Val) := [[⟨0, 1⟩, ⟨0, 2⟩], [⟨2, 3⟩, ⟨2, 4⟩]]

/-- Instance: two columns of two values, panic in the first column: both of its values are dropped
by the operation and again by the world's drop. -/
example : (clearFault witnessCols 0).1 = [⟨0, 1⟩, ⟨0, 2⟩] ∧
    (clearFault witnessCols 0).2.dropAll = [⟨0, 1⟩, ⟨0, 2⟩, ⟨2, 3⟩, ⟨2, 4⟩] ∧
    ((clearFault witnessCols 0).1 ++ (clearFault witnessCols 0).2.dropAll).Nodup = False := by
  refine ⟨by decide, by decide, ?_⟩
  simp [clearFault, witnessCols, RawArch.dropAll]

/-- **Length-first is panic safe**: with the shared length zeroed before the loop, nothing the
interrupted operation dropped is dropped again (the untouched columns leak). -/
theorem C17_clear_length_first_safe (cols : List (List Val)) (j : Nat) :
    let (_, st) := clearFaultLengthFirst cols j
    st.dropAll = [] := by
  simp [clearFaultLengthFirst, RawArch.dropAll]

/-- An interrupted `swap_remove(i)`: the removed value, next to the column in which a value of the
column has already been copied over it, makes some value occur twice: up to order it is `l :: c`. -/
theorem not_nodup_cons_set_mem {α} {c : List α} {i : Nat} (hi : i < c.length) {l : α} (hl : l ∈ c) :
    ¬ (c[i] :: c.set i l).Nodup := by
  obtain ⟨m, h1, h2⟩ := set_perm_cons l (List.getElem?_eq_getElem hi)
  have hp : (c[i] :: c.set i l).Perm (l :: c) :=
    (h2.cons _).trans ((List.Perm.swap _ _ _).trans (h1.symm.cons _))
  exact fun h => (List.nodup_cons.mp (hp.nodup_iff.mp h)).1 hl

/-- **The `World::remove` finding (recorded, not repaired), for every layout**: if removing row
`index` is interrupted by a `Drop` panic in column `j`, some value is dropped twice once the
archetype is dropped — the removed value itself when the row was the last one, the last row's value
(now present in two slots) otherwise. -/
theorem C17_remove_drop_panic_double_drop (c0 : List Val) (rest : List (List Val)) (index j : Nat)
    (hi : index < c0.length) :
    ¬ NoDoubleDrop ((removeFault (c0 :: rest) index j).1 ++ (removeFault (c0 :: rest) index j).2.dropAll) := by
  obtain ⟨l, hl⟩ : ∃ l, c0.getLast? = some l :=
    ⟨_, List.getLast?_eq_getElem? ▸ List.getElem?_eq_getElem (by omega)⟩
  refine fun hnd => not_nodup_cons_set_mem hi (List.mem_of_getLast? hl) (List.Sublist.nodup ?_ hnd)
  -- the removed value heads what the operation dropped; the first column, after the copy, heads
  -- what the archetype's drop walks, in full since the shared length is stale
  simp only [removeFault, List.take_succ_cons, List.filterMap_cons, List.getElem?_eq_getElem hi,
    List.headD_cons, List.map_cons, hl, RawArch.dropAll, List.cons_append, List.flatMap_cons]
  rw [← List.length_set (as := c0) (i := index) (a := l), List.take_length]
  exact .cons_cons _ ((List.sublist_append_left _ _).trans (List.sublist_append_right _ _))

/-- Instance: removing the first of two rows, panic in the first column. -/
example : (removeFault witnessCols 0 0).1 = [⟨0, 1⟩] ∧
    (removeFault witnessCols 0 0).2.dropAll = [⟨0, 2⟩, ⟨0, 2⟩, ⟨2, 3⟩, ⟨2, 4⟩] := by
  refine ⟨by decide, by decide⟩

/-- **The `World::clone_from` finding (recorded, not repaired)**: when the destination table holds
more rows than the source and a `Clone` panics in column `j`, the values `Vec::clone_from` cut off
column `j` before cloning are dropped by the operation and — still covered by the stale shared
length — again when the archetype is dropped. -/
theorem C17_clone_from_panic_double_drop (e : Nat) (dst src : List (List Val)) (j : Nat)
    (hd : ∀ c ∈ dst, c.length = (dst.headD []).length) :
    ∀ v ∈ ((dst.drop j).headD []).drop ((src.drop j).headD []).length,
      v ∈ (cloneFromFault e dst src j).1 ∧ v ∈ (cloneFromFault e dst src j).2.dropAll := by
  intro v hv
  refine ⟨List.mem_append_right _ hv, ?_⟩
  cases hdj : dst.drop j with
  | nil => simp [hdj] at hv
  | cons c rest =>
    rw [hdj] at hv
    have hc : c ∈ dst.drop j := hdj ▸ List.mem_cons_self
    exact RawArch.mem_dropAll (List.mem_append_right _ hc) (hd c (List.mem_of_mem_drop hc))
      (List.mem_of_mem_drop hv)

/-- Instance: destination of two rows, source of one, panic while cloning the first column: the
cut-off value `⟨0, 2⟩` is dropped twice. -/
example : (cloneFromFault 1 witnessCols [[⟨0, 7⟩], [⟨2, 8⟩]] 0).1 = [⟨0, 2⟩] ∧
    (cloneFromFault 1 witnessCols [[⟨0, 7⟩], [⟨2, 8⟩]] 0).2.dropAll = [⟨0, 1⟩, ⟨0, 2⟩, ⟨2, 3⟩, ⟨2, 4⟩] := by
  refine ⟨by decide, by decide⟩

/-! ### `Entry::remove`: where the detached component is dropped

`Entry::remove` pops the entity's row into a byte buffer (fixing the location of the row that is
swapped into its place), pushes the row minus the detached component into the target table, and
re-points the entity's slot.  Originally the detached component was never dropped (a leak, C04).
Repair 885588c dropped it while the row was being pushed: a panicking `Drop` then left the world
in the state `entryRemoveMidFault` below.  Repair 7197610 drops it last. -/

/-- The state a `Drop` panic in the middle of the move leaves behind: the row has left its table
(`takeRowAt`), nothing else has happened — in particular the entity's slot still names the old row. -/
def entryRemoveMidFault (w : World) (id : Ident) : Out World :=
  match w.alloc.get id with
  | none => .ok w
  | some loc =>
    match w.takeRowAt loc.arch loc.row with
    | .ok (w1, _, _) => .ok w1
    | .ub e => .ub e

/-- **Mid-move is not panic safe** (witness): the state left behind violates the invariant — a
live identifier whose location names a row that is no longer there — so later safe calls index
outside the live rows. -/
example :
    (match run (World.init 2 []) [.insert [0, 1] [⟨0, 1⟩, ⟨1, 2⟩]] with
     | .ok w =>
       (match entryRemoveMidFault w ⟨0, 0⟩ with
        | .ok w1 => (invB w, invB w1, (w1.alloc.get ⟨0, 0⟩).isSome, w1.archs.map (·.ids.length))
        | .ub _ => (false, true, false, []))
     | .ub _ => (false, true, false, [])) = (true, false, true, [0]) := by decide

/-- **Drop-last is panic safe**: when the detached component is dropped as the last step, the
state a panicking `Drop` leaves behind is the complete result of `Entry::remove`, which satisfies
the invariant and denotes the expected map — the world stays fully usable, nothing is dropped
twice (the detached value was moved out of the columns before its `Drop` ran). -/
theorem C17_entry_remove_drop_last_safe {w w' : World} {id : Ident} {c : Nat} {res : Option (List Val)}
    (hi : Inv w) (e : w.entryRemove id c = .ok (w', res)) :
    Inv w' ∧ w'.len = w.len ∧
    w'.entity id = (w.entity id).map (fun vs => vs.filter (fun v => v.ty ≠ c)) ∧
    (∀ id', id' ≠ id → w'.entity id' = w.entity id') ∧
    (∀ x, w'.cnt x + (res.getD []).count x = w.cnt x) := by
  obtain ⟨h1, h2, h3⟩ := entryRemove_entity hi e
  exact ⟨entryRemove_inv hi e, h3, h1, h2, fun x => entryRemove_cnt x hi e⟩

/-- Callbacks that only read (`PartialEq`, `Debug`, `Serialize`, a system body) are safe for
every operation; `Clone` is safe inside `clone`. -/
theorem C17_read_only_safe (op : String) :
    faultSafe op "PartialEq" = true ∧ faultSafe op "Debug" = true ∧
    faultSafe op "Serialize" = true ∧ faultSafe op "Body" = true ∧ faultSafe "clone" "Clone" = true := by
  simp [faultSafe]

end Brood

#print axioms Brood.C17_clear_drop_panic_double_drop
#print axioms Brood.C17_clear_length_first_safe
#print axioms Brood.C17_remove_drop_panic_double_drop
#print axioms Brood.C17_clone_from_panic_double_drop
#print axioms Brood.C17_read_only_safe
#print axioms Brood.C17_entry_remove_drop_last_safe
