/-
  C02 — Identifiers are never confused: unique, stable while live, dead once removed.

  Stated over *every* history of allocator operations (the only code that creates, resolves and
  retires identifiers: `entity::Allocator`).  A history is a list of `AOp`s; `release`/`move` of an
  identifier that is not live is a no-op, exactly as `World::remove` / `World::entry` behave.
  The correspondence check ties `Alloc` to src/entity/allocator/mod.rs through the slot/free-list
  dump after every operation and through `probe` ops on every identifier ever issued.

  Overflow: generations are `Nat` in `Alloc`; the code's `u64` generations with `wrapping_add(1)`
  are the subject of the section on the machine allocator (`arunW`): it is the image of the `Nat`
  one under reduction modulo 2^64 for every history (`C02_machine_simulation`), coincides with it
  along every history that issues fewer than 2^64 identifiers (`C02_machine_partial` — the C02
  statements for the machine allocator, *partial*: bounded by that count), and beyond it the full
  statement is false of the code (`C02_machine_wrap_witness`).
-/
import BroodModel.Lemmas.Alloc
import BroodModel.Lemmas.AllocPres
import BroodModel.Lemmas.Entity
import BroodModel.Lemmas.CloneFrom
import BroodModel.Lemmas.Wrap
import BroodModel.Generated.Tables
import BroodModel.Churn
import BroodModel.Lemmas.NoUB

namespace Brood
open Alloc

/-- Allocator-level operations of a history. -/
inductive AOp
  | alloc (loc : Loc)                    -- insert
  | batch (h start n : Nat)              -- extend with n rows
  | release (id : Ident)                 -- remove / clear (per identifier)
  | move (id : Ident) (loc : Loc)        -- row moved: swap-remove fix-up, Entry::add/remove

structure AState where
  a : Alloc
  /-- ghost: every identifier returned so far, newest first -/
  issued : List Ident
  /-- ghost: identifiers that were live when released -/
  retired : List Ident

def AState.init : AState := ⟨Alloc.empty, [], []⟩

/-- One step; returns the identifiers handed to the caller by this step. -/
def astep (s : AState) : AOp → Out (AState × List Ident)
  | .alloc loc =>
    match s.a.allocate loc with
    | .ok (a', id) => .ok (⟨a', id :: s.issued, s.retired⟩, [id])
    | .ub w => .ub w
  | .batch h start n =>
    match s.a.allocateBatch h start n with
    | .ok (a', ids) => .ok (⟨a', ids.reverse ++ s.issued, s.retired⟩, ids)
    | .ub w => .ub w
  | .release id =>
    match s.a.get id with
    | none => .ok (s, [])
    | some _ =>
      match s.a.release id with
      | .ok a' => .ok (⟨a', s.issued, id :: s.retired⟩, [])
      | .ub w => .ub w
  | .move id loc =>
    match s.a.get id with
    | none => .ok (s, [])
    | some _ =>
      match s.a.setLoc id loc with
      | .ok a' => .ok (⟨a', s.issued, s.retired⟩, [])
      | .ub w => .ub w

def arun (s : AState) : List AOp → Out AState
  | [] => .ok s
  | op :: ops =>
    match astep s op with
    | .ok (s', _) => arun s' ops
    | .ub w => .ub w

/-- What a successful step does: the allocator goes through the primitive the operation names;
`release` and `move` of an identifier that does not resolve change nothing. -/
inductive AStep (s : AState) : AOp → AState → List Ident → Prop
  | alloc {loc a' id} : s.a.allocate loc = .ok (a', id) →
      AStep s (.alloc loc) ⟨a', id :: s.issued, s.retired⟩ [id]
  | batch {h start n a' ids} : s.a.allocateBatch h start n = .ok (a', ids) →
      AStep s (.batch h start n) ⟨a', ids.reverse ++ s.issued, s.retired⟩ ids
  | release {id a'} : Live s.a id → s.a.release id = .ok a' →
      AStep s (.release id) ⟨a', s.issued, id :: s.retired⟩ []
  | move {id loc a'} : Live s.a id → s.a.setLoc id loc = .ok a' →
      AStep s (.move id loc) ⟨a', s.issued, s.retired⟩ []
  | staleRelease {id} : s.a.get id = none → AStep s (.release id) s []
  | staleMove {id loc} : s.a.get id = none → AStep s (.move id loc) s []

theorem astep_eq_ok {s s' : AState} {op : AOp} {out : List Ident}
    (e : astep s op = .ok (s', out)) : AStep s op s' out := by
  cases op with
  | alloc loc | batch h start n =>
    simp only [astep] at e
    split at e
    next h1 =>
      cases e
      first | exact .alloc h1 | exact .batch h1
    next => cases e
  | release id | move id loc =>
    simp only [astep] at e
    split at e
    next hg =>
      cases e
      first | exact .staleRelease hg | exact .staleMove hg
    next l hg =>
      split at e
      next h1 =>
        cases e
        first | exact .release ⟨l, hg⟩ h1 | exact .move ⟨l, hg⟩ h1
      next => cases e

theorem astep_ok {s : AState} (hi : AInv s.a) (op : AOp) : ∃ s' out, astep s op = .ok (s', out) := by
  cases op with
  | alloc loc =>
    obtain ⟨a', id, e⟩ := allocate_ok hi loc
    rw [astep, e]
    exact ⟨_, _, rfl⟩
  | batch h start n =>
    obtain ⟨a', ids, e⟩ := allocateBatch_ok hi h start n
    rw [astep, e]
    exact ⟨_, _, rfl⟩
  | release id =>
    rw [astep]
    cases hg : s.a.get id with
    | none => exact ⟨_, _, rfl⟩
    | some l =>
      obtain ⟨a', e⟩ := release_ok ⟨l, hg⟩
      rw [e]
      exact ⟨_, _, rfl⟩
  | move id loc =>
    rw [astep]
    cases hg : s.a.get id with
    | none => exact ⟨_, _, rfl⟩
    | some l =>
      obtain ⟨a', e⟩ := setLoc_ok ⟨l, hg⟩ loc
      rw [e]
      exact ⟨_, _, rfl⟩

theorem astep_inv {s s' : AState} {op : AOp} {out : List Ident} (hi : AInv s.a)
    (e : astep s op = .ok (s', out)) : AInv s'.a := by
  cases astep_eq_ok e with
  | alloc h1 => exact allocate_inv hi h1
  | batch h1 => exact allocateBatch_inv hi h1
  | release hl h1 => exact release_inv hi hl h1
  | move hl h1 => exact setLoc_inv hi hl h1
  | staleRelease | staleMove => exact hi

/-- What is maintained along every history. -/
structure AGood (s : AState) : Prop where
  inv : AInv s.a
  ghost : Ghost s.a s.issued
  nodup : s.issued.Nodup
  dead : ∀ id ∈ s.retired, Dead s.a id

theorem AGood.init : AGood AState.init :=
  ⟨AInv.empty, Ghost.nil _, List.nodup_nil, by simp [AState.init]⟩

/-- The ghost parts of `AGood` follow the allocator along `Le`. -/
theorem AGood.le {s : AState} (g : AGood s) {a' : Alloc} (hi : AInv a') (hle : Le s.a a') :
    AGood ⟨a', s.issued, s.retired⟩ where
  inv := hi
  ghost := g.ghost.mono hle
  nodup := g.nodup
  dead x hx := (g.dead x hx).mono hle

theorem AGood.alloc {a a' : Alloc} {iss ret : List Ident} {loc : Loc} {id : Ident}
    (g : AGood ⟨a, iss, ret⟩) (e : a.allocate loc = .ok (a', id)) : AGood ⟨a', id :: iss, ret⟩ where
  inv := allocate_inv g.inv e
  ghost := allocate_ghost g.ghost e
  nodup := List.nodup_cons.mpr ⟨allocate_fresh g.ghost e, g.nodup⟩
  dead x hx := (g.dead x hx).mono (allocate_le e)

/-- `AGood` is a predicate of the kind `allocateBatch_fold` carries through a batch; that the new
identifiers are fresh and distinct is read off `nodup` of the result. -/
theorem AGood.batch {s : AState} (g : AGood s) {a' : Alloc} {h start n : Nat} {ids : List Ident}
    (e : s.a.allocateBatch h start n = .ok (a', ids)) :
    AGood ⟨a', ids.reverse ++ s.issued, s.retired⟩ ∧ (∀ id ∈ ids, id ∉ s.issued) ∧ ids.Nodup := by
  have g' := (allocateBatch_fold (Q := fun a iss => AGood ⟨a, iss, s.retired⟩) AGood.alloc n g e).1
  have nd := List.nodup_append.mp g'.nodup
  exact ⟨g', fun id hi hm => nd.2.2 id (List.mem_reverse.mpr hi) id hm rfl,
    (List.reverse_perm ids).nodup_iff.mp nd.1⟩

theorem AGood.step {s s' : AState} {op : AOp} {out : List Ident} (g : AGood s)
    (e : astep s op = .ok (s', out)) : AGood s' ∧ (∀ id ∈ out, id ∉ s.issued) ∧ out.Nodup := by
  cases astep_eq_ok e with
  | alloc h1 =>
    exact ⟨g.alloc h1, fun x hx => List.mem_singleton.mp hx ▸ allocate_fresh g.ghost h1,
      List.pairwise_singleton _ _⟩
  | batch h1 => exact g.batch h1
  | release hl h1 =>
    have g' := g.le (release_inv g.inv hl h1) (release_le h1)
    exact ⟨⟨g'.inv, g'.ghost, g'.nodup, List.forall_mem_cons.mpr ⟨release_makes_dead hl h1, g'.dead⟩⟩,
      nofun, List.nodup_nil⟩
  | move hl h1 => exact ⟨g.le (setLoc_inv g.inv hl h1) (setLoc_le hl h1), nofun, List.nodup_nil⟩
  | staleRelease | staleMove => exact ⟨g, nofun, List.nodup_nil⟩

theorem arun_good {s : AState} (g : AGood s) (ops : List AOp) :
    ∃ s', arun s ops = .ok s' ∧ AGood s' := by
  induction ops generalizing s with
  | nil => exact ⟨s, rfl, g⟩
  | cons op ops ih =>
    obtain ⟨s1, out, e⟩ := astep_ok g.inv op
    obtain ⟨s2, e2, g2⟩ := ih (g.step e).1
    exact ⟨s2, by rw [arun, e]; exact e2, g2⟩

/-- **C02 (uniqueness).** After any history, the identifiers issued over the allocator's whole
lifetime are pairwise distinct — each identifier returned by insert/extend differs from every
identifier returned before it. -/
theorem C02_unique (ops : List AOp) :
    ∃ s, arun AState.init ops = .ok s ∧ s.issued.Nodup := by
  obtain ⟨s, e, g⟩ := arun_good AGood.init ops
  exact ⟨s, e, g.nodup⟩

/-- **C02 (freshness, step form).** In any reachable state, the identifiers a step returns were
never issued before and are pairwise distinct (batches larger, equal and smaller than the free
list included: `n` is arbitrary). -/
theorem C02_fresh (ops : List AOp) (op : AOp) :
    ∃ s s' out, arun AState.init ops = .ok s ∧ astep s op = .ok (s', out) ∧
      (∀ id ∈ out, id ∉ s.issued) ∧ out.Nodup := by
  obtain ⟨s, e, g⟩ := arun_good AGood.init ops
  obtain ⟨s', out, e'⟩ := astep_ok g.inv op
  exact ⟨s, s', out, e, e', (g.step e').2⟩

/-- **C02 (dead once removed).** An identifier that was live when it was released never resolves
again, whatever happens afterwards — including reuse of its slot: for *every* retired identifier,
not only the most recent one. -/
theorem C02_dead_forever (ops : List AOp) :
    ∃ s, arun AState.init ops = .ok s ∧
      ∀ id ∈ s.retired, s.a.get id = none ∧ s.a.isActive id = false := by
  obtain ⟨s, e, g⟩ := arun_good AGood.init ops
  exact ⟨s, e, fun id hid => ⟨(g.dead id hid).not_live, (g.dead id hid).not_active⟩⟩

/-- An operation *targets* an identifier if it releases it. -/
def AOp.releases (id : Ident) : AOp → Bool
  | .release id' => id' == id
  | _ => false

theorem astep_frame {s s' : AState} {out : List Ident} (hi : AInv s.a) {op : AOp}
    (e : astep s op = .ok (s', out)) {id : Ident} (hno : op.releases id = false)
    (hl : Live s.a id) : Live s'.a id := by
  cases astep_eq_ok e with
  | alloc h1 => exact allocate_live hi h1 hl
  | batch h1 => exact allocateBatch_pres (fun hi hl e => allocate_live hi e hl) hi hl h1
  | release hl' h1 => exact release_live hl' h1 hl fun h => by simp [AOp.releases, h] at hno
  | move hl' h1 => exact setLoc_live hl' h1 hl
  | staleRelease | staleMove => exact hl

theorem arun_stable {s : AState} (hi : AInv s.a) {id : Ident} (hl : Live s.a id) (ops : List AOp)
    (hno : ∀ op ∈ ops, op.releases id = false) :
    ∃ s', arun s ops = .ok s' ∧ Live s'.a id := by
  induction ops generalizing s with
  | nil => exact ⟨s, rfl, hl⟩
  | cons op ops ih =>
    obtain ⟨s1, out, e⟩ := astep_ok hi op
    obtain ⟨s2, e2, hl2⟩ := ih (astep_inv hi e) (astep_frame hi e (hno op List.mem_cons_self) hl)
      (fun op' hop => hno op' (List.mem_cons_of_mem op hop))
    exact ⟨s2, by rw [arun, e]; exact e2, hl2⟩

/-- **C02 (stable while live).** A live identifier keeps resolving through any continuation that
does not release it — allocations reusing other slots, releases and moves of other entities, and
moves of the entity itself (it then resolves to the new location). -/
theorem C02_stable {s : AState} (g : AGood s) {id : Ident} (hl : Live s.a id) (ops : List AOp)
    (hno : ∀ op ∈ ops, op.releases id = false) :
    ∃ s', arun s ops = .ok s' ∧ Live s'.a id :=
  arun_stable g.inv hl ops hno

/-- No history reaches an unchecked slot access (`get_unchecked_mut`, `unwrap_unchecked`). -/
theorem C02_no_ub (ops : List AOp) : ∀ w, arun AState.init ops ≠ .ub w := by
  obtain ⟨s, e, -⟩ := arun_good AGood.init ops
  intro w h
  rw [e] at h
  cases h

/-! Non-vacuity: a concrete history with reuse through a batch smaller than the free list. -/
example :
    (arun AState.init
      [.batch 0 0 3, .release ⟨0, 0⟩, .release ⟨1, 0⟩, .release ⟨2, 0⟩, .batch 0 0 1,
       .alloc ⟨0, 1⟩, .release ⟨0, 0⟩]).isOk = true := by decide

def exampleState : Option AState :=
  match arun AState.init
    [.batch 0 0 3, .release ⟨0, 0⟩, .release ⟨1, 0⟩, .release ⟨2, 0⟩, .batch 0 0 1, .alloc ⟨0, 1⟩] with
  | .ok s => some s
  | .ub _ => none

example : exampleState.map (fun s => (s.issued, s.retired.length, s.a.free)) =
    some ([⟨1, 1⟩, ⟨0, 1⟩, ⟨2, 0⟩, ⟨1, 0⟩, ⟨0, 0⟩], 3, [2]) := by decide

/-! ### lifted to worlds: every world history is an allocator history

`step_apres` / `run_apres` (Lemmas/AllocPres): every world operation — insert, extend, remove
(with its swap-remove fix-up), clear, Entry::add / Entry::remove (row moves), writes, reserve,
shrink_to_fit — acts on the allocator only through `allocate`, `release` and `setLoc` applied to
live identifiers (and `clear`'s sorting of the slots it freed in the queue).  Hence the
allocator-level facts above hold along every world history: generations only grow and a freed slot
stays free until it is reused (`run_le`), so what is `Dead` stays `Dead` and a `Ghost` bound stays
one. -/

/-- **Dead once removed, forever**: after `remove` of a live identifier, no later history ever
makes it live again (`contains`, `entry`, queries by identifier all reject it). -/
theorem C02_world_dead_forever {w w1 w2 : World} {id : Ident} {drops : List Val} (hi : Inv w)
    (hl : (w.alloc.get id).isSome) (e : w.remove id = .ok (w1, drops)) (ops : List Op)
    (h : run w1 ops = .ok w2) :
    w2.alloc.get id = none ∧ w2.entity id = none ∧ w2.contains id = false := by
  have hd : Dead w2.alloc id := (remove_makes_dead hi hl e).mono (run_le (remove_inv hi e) ops h)
  exact ⟨hd.not_live, entity_none_of_dead hd.not_live, hd.not_active⟩

/-- **An identifier is never issued twice**: whatever `insert` returned at some point of a world's
history is never returned again by a later `insert`, however many removals, shape changes and
clears lie in between. -/
theorem C02_world_never_reissued {w w1 w2 w3 : World} {shape shape' : List Nat} {vals vals' : List Val}
    {id id' : Ident} (hi : Inv w) (e1 : w.insert shape vals = .ok (w1, id)) (ops : List Op)
    (h : run w1 ops = .ok w2) (e2 : w2.insert shape' vals' = .ok (w3, id')) : id' ≠ id := by
  obtain ⟨loc, ha⟩ := insert_alloc hi e1
  have hi1 := insert_inv hi e1
  obtain ⟨loc', ha'⟩ := insert_alloc (run_inv hi1 ops h) e2
  have hg : Ghost w2.alloc [id] := (allocate_ghost (Ghost.nil _) ha).mono (run_le hi1 ops h)
  exact fun e' => allocate_fresh hg ha' (by simp [e'])

/-- **Not confused across copies**: an identifier that is dead in a world is dead in its clone
and in any world that `clone_from`s it (a copy never resurrects an identifier), and stays dead
there under every later history. -/
theorem C02_world_dead_in_copies {w c c' : World} (hi : Inv w) {x : Ident} (d : Dead w.alloc x)
    {e next : Nat} (h : w.clone e next = .ok c) (ops : List Op) (hr : run c ops = .ok c') :
    c.entity x = none ∧ c'.entity x = none := by
  have hd := clone_keeps_dead h d
  have hic : Inv c := clone_eq_ok h ▸ cloneWorld_inv hi e next
  exact ⟨entity_none_of_dead hd.not_live,
    entity_none_of_dead (hd.mono (run_le hic ops hr)).not_live⟩

theorem C02_world_dead_after_clone_from {d s fin : World} {drops : List Val} {e : Nat} {x : Ident}
    (hd : Dead s.alloc x) (h : World.cloneFrom d s e = .ok (fin, drops)) : fin.entity x = none :=
  entity_none_of_dead (cloneFrom_keeps_dead h hd).not_live

/-- **Stable while live**: operations aimed at other identifiers never change what a live
identifier resolves to (the frame halves of the C01 per-operation theorems, collected). -/
theorem C02_world_stable {w w' : World} (hi : Inv w) {id x : Ident} (hne : x ≠ id) :
    (∀ drops, w.remove id = .ok (w', drops) → w'.entity x = w.entity x) ∧
    (∀ c v res, c < w.n → v.ty = c → w.entryAdd id c v = .ok (w', res) → w'.entity x = w.entity x) ∧
    (∀ c res, w.entryRemove id c = .ok (w', res) → w'.entity x = w.entity x) ∧
    (∀ c v res, v.ty = c → w.write id c v = .ok (w', res) → w'.entity x = w.entity x) :=
  ⟨fun _ e => (remove_entity hi e).2.1 x hne,
   fun _ _ _ _ _ e => (entryAdd_entity hi e).2.1 x hne,
   fun _ _ e => (entryRemove_entity hi e).2.1 x hne,
   fun _ _ _ _ e => (write_entity hi e).2.1 x hne⟩

/-! ### the machine allocator: `u64` generations, `wrapping_add(1)` (src/entity/allocator/slot.rs:56)

`astepW m` / `arunW m` are `astep` / `arun` with the generation counter of `m` values
(`Lemmas/Wrap`: `allocateW`, `allocateBatchW`); the code is `m = 2^64`. -/

def astepW (m : Nat) (s : AState) : AOp → Out (AState × List Ident)
  | .alloc loc =>
    match allocateW m s.a loc with
    | .ok (a', id) => .ok (⟨a', id :: s.issued, s.retired⟩, [id])
    | .ub w => .ub w
  | .batch h start n =>
    match allocateBatchW m s.a h start n with
    | .ok (a', ids) => .ok (⟨a', ids.reverse ++ s.issued, s.retired⟩, ids)
    | .ub w => .ub w
  | op => astep s op

def arunW (m : Nat) (s : AState) : List AOp → Out AState
  | [] => .ok s
  | op :: ops =>
    match astepW m s op with
    | .ok (s', _) => arunW m s' ops
    | .ub w => .ub w

/-- Identifiers an operation issues. -/
def AOp.cost : AOp → Nat
  | .alloc _ => 1
  | .batch _ _ n => n
  | _ => 0

def cost : List AOp → Nat
  | [] => 0
  | op :: ops => op.cost + cost ops

theorem astep_genLe {s s' : AState} {out : List Ident} {k : Nat} (hb : GenLe s.a k) (op : AOp)
    (e : astep s op = .ok (s', out)) : GenLe s'.a (k + op.cost) := by
  cases astep_eq_ok e with
  | alloc h1 => exact allocate_genLe hb h1
  | batch h1 => exact allocateBatch_genLe hb h1
  | release _ h1 => exact release_genLe hb h1
  | move _ h1 => exact setLoc_genLe hb h1
  | staleRelease | staleMove => exact hb

theorem astepW_eq_astep (m : Nat) {s : AState} {k : Nat} (hb : GenLe s.a k) (op : AOp)
    (hk : k + op.cost < m) : astepW m s op = astep s op := by
  cases op with
  | alloc loc => rw [astepW, astep, allocateW_eq m hb hk]
  | batch h start n => rw [astepW, astep, allocateBatchW_eq m (n := n) hb hk]
  | release id => rfl
  | move id loc => rfl

/-- Along a history that issues fewer than `m` identifiers in total, the machine allocator and the
`Nat` allocator take exactly the same steps. -/
theorem arunW_eq_arun (m : Nat) : ∀ (ops : List AOp) (s : AState) (k : Nat),
    GenLe s.a k → k + cost ops < m → arunW m s ops = arun s ops := by
  intro ops
  induction ops with
  | nil => exact fun _ _ _ _ => rfl
  | cons op ops ih =>
    intro s k hb hk
    rw [cost, ← Nat.add_assoc] at hk
    rw [arunW, arun, astepW_eq_astep m hb op (Nat.lt_of_le_of_lt (Nat.le_add_right _ _) hk)]
    cases h1 : astep s op with
    | ub w => rfl
    | ok p => exact ih p.1 (k + op.cost) (astep_genLe hb op h1) hk

/-- For a generation counter of `m` values: every history that issues fewer than `m` identifiers
never reaches an unchecked access, issues pairwise distinct identifiers, and no retired identifier —
not only the most recent — resolves again. -/
theorem C02_machine_partial_m (m : Nat) (ops : List AOp) (h : cost ops < m) :
    ∃ s, arunW m AState.init ops = .ok s ∧ s.issued.Nodup ∧
      ∀ id ∈ s.retired, s.a.get id = none ∧ s.a.isActive id = false := by
  rw [arunW_eq_arun m ops AState.init 0 GenLe.empty (by omega)]
  obtain ⟨s, e, nd⟩ := C02_unique ops
  obtain ⟨s', e', hd⟩ := C02_dead_forever ops
  cases e.symm.trans e'
  exact ⟨s, e, nd, hd⟩

/-- **The counter the code has** (regenerated from src/entity/allocator/slot.rs and
src/entity/identifier/mod.rs on every run): 64 bits in the slot, 64 bits in the identifier (no
narrowing between the two), starts at 0, bumped by `wrapping_add(1)`.  A narrower counter — a `u16`
generation "to save memory" — still compiles and passes every test, and makes C02 false after
65 536 reuses of one slot; this obligation then fails, and the `churn` scenario of the
correspondence exhibits the reissued identifier. -/
theorem C02_machine_counter : Generated.genCounter = (64, 64, 0, 1) := by decide

/-- **C02 for the machine allocator — partial** (bounded by the number of identifiers issued; the
unbounded statement is false of the code, see `C02_machine_wrap_witness`).  For every history that
issues fewer than 2^(bits of the code's counter) = 2^64 identifiers, the allocator with the code's
generation counter never reaches an unchecked access, issues pairwise distinct identifiers, and
no retired identifier resolves again. -/
theorem C02_machine_partial (ops : List AOp) (h : cost ops < 2 ^ 64) :
    ∃ s, arunW (2 ^ Generated.genCounter.1) AState.init ops = .ok s ∧ s.issued.Nodup ∧
      ∀ id ∈ s.retired, s.a.get id = none ∧ s.a.isActive id = false := by
  have hc : Generated.genCounter.1 = 64 := by rw [C02_machine_counter]
  rw [hc]
  exact C02_machine_partial_m (2 ^ 64) ops h

/-- **Simulation, every history**: whatever the `Nat` allocator does in one step, the machine
allocator does on the state with all generations reduced modulo `m`, and hands out the reduced
identifiers.  (Statement for the three primitives every world operation goes through —
`step_apres`.) -/
theorem C02_machine_simulation (m : Nat) {a a' : Alloc} :
    (∀ loc id, a.allocate loc = .ok (a', id) → allocateW m (a.wrap m) loc = .ok (a'.wrap m, id.wrap m)) ∧
    (∀ h start n ids, a.allocateBatch h start n = .ok (a', ids) →
      allocateBatchW m (a.wrap m) h start n = .ok (a'.wrap m, ids.map (Ident.wrap m))) ∧
    (∀ id, a.release id = .ok a' → (a.wrap m).release (id.wrap m) = .ok (a'.wrap m)) ∧
    (∀ id loc, a.setLoc id loc = .ok a' → (a.wrap m).setLoc (id.wrap m) loc = .ok (a'.wrap m)) ∧
    (∀ id l, a.get id = some l → (a.wrap m).get (id.wrap m) = some l) :=
  ⟨fun _ _ e => allocateW_sim m e, fun _ _ _ _ e => allocateBatchW_sim m e,
   fun _ e => release_sim m e, fun _ _ e => setLoc_sim m e, fun _ _ e => get_sim m e⟩

/-- **The unbounded statement is false of `wrapping_add`**: a free slot that has been through all
`m` values of the counter is handed out with the generation of its first identifier; the stale
first identifier then resolves to the new entity.  (With `m = 2^64` no run gets there; C02's
"never resolves again" holds of the code only up to that count.) -/
theorem C02_machine_wrap_witness (m : Nat) (hm : 0 < m) (loc : Loc) :
    ∃ a', allocateW m ⟨[⟨m - 1, none⟩], [0]⟩ loc = .ok (a', ⟨0, 0⟩) ∧ a'.get ⟨0, 0⟩ = some loc :=
  wrap_reissues m hm 0 [] [⟨m - 1, none⟩] ⟨m - 1, none⟩ rfl rfl loc

/-! The witness state is reachable, shown on a counter of 3 values: the fourth identifier of slot 0
is the first one again (a *test* of the mechanism on a small counter, not a claim about 2^64). -/
example :
    (match arunW 3 AState.init
        [.alloc ⟨0, 0⟩, .release ⟨0, 0⟩, .alloc ⟨0, 0⟩, .release ⟨0, 1⟩, .alloc ⟨0, 0⟩,
         .release ⟨0, 2⟩, .alloc ⟨0, 0⟩] with
     | .ok s => some (s.issued, s.a.get ⟨0, 0⟩)
     | .ub _ => none) =
    some ([⟨0, 0⟩, ⟨0, 2⟩, ⟨0, 1⟩, ⟨0, 0⟩], some ⟨0, 0⟩) := by decide

/-! Non-vacuity of `C02_machine_partial`: a history with reuse below the bound. -/
example : cost [AOp.batch 0 0 3, .release ⟨0, 0⟩, .alloc ⟨0, 1⟩] < 2 ^ 64 := by decide

/-! ### `churn`: the scenario the correspondence runs to drive a generation counter up -/

theorem churn_spec : ∀ (n : Nat) {w w' : World} {id last : Ident}, Inv w → (w.alloc.get id).isSome →
    w.churn n id = .ok (w', last) →
    Inv w' ∧ Le w.alloc w'.alloc ∧ (w'.alloc.get last).isSome ∧ (0 < n → Dead w'.alloc id) := by
  intro n
  induction n with
  | zero =>
    intro w w' id last hi hl h
    cases h
    exact ⟨hi, Le.refl _, hl, fun h => absurd h (Nat.lt_irrefl 0)⟩
  | succ n ih =>
    intro w w' id last hi hl h
    simp only [World.churn] at h
    split at h
    next => cases h
    next w1 drops h1 =>
      split at h
      next => cases h
      next w2 id2 h2 =>
        have hi1 := remove_inv hi h1
        obtain ⟨loc, ha⟩ := insert_alloc hi1 h2
        have hl2 : (w2.alloc.get id2).isSome := by rw [(get_allocate hi1.ainv ha).2, if_pos rfl]; rfl
        obtain ⟨hi', hle', hl', -⟩ := ih (insert_inv hi1 h2) hl2 h
        have hle1 : Le w.alloc w1.alloc := step_le hi (op := .remove id) (congrArg fstOut h1)
        have hle2 : Le w1.alloc w'.alloc := (allocate_le ha).trans hle'
        have hd := remove_makes_dead hi hl h1
        exact ⟨hi', hle1.trans hle2, hl', fun _ => hd.mono hle2⟩

/-- **What the model answers to `churn`**: from any world with `Inv` and a live entity `id`, after
any positive number of remove / insert rounds the invariant holds, the identifier handed out last is
live, and it differs from `id` and from every identifier `x` that was dead before — which stay
dead.  (So an implementation that hands `id` out again after 65 536 rounds disagrees with the model
*and* with this theorem; the `Nat` model never wraps.) -/
theorem C02_churn_never_returns : ∀ (n : Nat) {w w' : World} {id last x : Ident}, Inv w →
    (w.alloc.get id).isSome → (x = id ∨ Dead w.alloc x) → w.churn (n + 1) id = .ok (w', last) →
    Inv w' ∧ Dead w'.alloc x ∧ last ≠ x ∧ (w'.alloc.get last).isSome := by
  intro n w w' id last x hi hl hx h
  obtain ⟨hi', hle, hl', hd⟩ := churn_spec (n + 1) hi hl h
  have hdx : Dead w'.alloc x := by
    rcases hx with rfl | hx
    · exact hd (Nat.succ_pos n)
    · exact hx.mono hle
  refine ⟨hi', hdx, fun e => ?_, hl'⟩
  rw [e, hdx.not_live] at hl'
  cases hl'

/-- No `churn` from a world with `Inv` reaches an unchecked access. -/
theorem C02_churn_no_ub : ∀ (n : Nat) {w : World} {id : Ident}, Inv w →
    ∃ w' last, w.churn n id = .ok (w', last) ∧ Inv w' := by
  intro n
  induction n with
  | zero => exact fun hi => ⟨_, _, rfl, hi⟩
  | succ n ih =>
    intro w id hi
    obtain ⟨w1, drops, h1⟩ := remove_ok hi id
    have hi1 := remove_inv hi h1
    obtain ⟨w2, id2, h2⟩ := insert_ok hi1 (shape := []) (vals := []) (by simp [World.shapeOk])
    simp only [World.churn, h1, h2]
    exact ih (insert_inv hi1 h2)

/-! ### the wrap witness is reachable, for every counter size -/

/-- `k` rounds of release + allocate on the machine allocator, starting from the live identifier
`id`. -/
def cycleW (m : Nat) (loc : Loc) : Nat → Alloc → Ident → Out (Alloc × Ident)
  | 0, a, id => .ok (a, id)
  | k + 1, a, id =>
    match a.release id with
    | .ub e => .ub e
    | .ok a1 =>
      match allocateW m a1 loc with
      | .ub e => .ub e
      | .ok (a2, id2) => cycleW m loc k a2 id2

theorem cycleW_spec (m : Nat) (loc : Loc) : ∀ (k g : Nat), g < m →
    cycleW m loc k ⟨[⟨g, some loc⟩], []⟩ ⟨0, g⟩ =
      .ok (⟨[⟨(g + k) % m, some loc⟩], []⟩, ⟨0, (g + k) % m⟩) := by
  intro k
  induction k with
  | zero =>
    intro g hg
    simp only [cycleW, Nat.add_zero, Nat.mod_eq_of_lt hg]
  | succ k ih =>
    intro g hg
    simp only [cycleW, release, allocateW, List.getElem?_cons_zero, List.set_cons_zero,
      List.nil_append]
    rw [ih ((g + 1) % m) (Nat.mod_lt _ (Nat.zero_lt_of_lt hg)), Nat.mod_add_mod, Nat.add_assoc,
      Nat.add_comm 1 k]

/-- **Reachability of the wrap, every counter size `m > 0`**: the allocator's first identifier
`⟨0, 0⟩`, released and its slot reused `m` times, is handed out again — on the machine allocator
uniqueness fails after exactly `m` reuses of one slot (and not before: `C02_machine_partial_m`). -/
theorem C02_machine_wrap_reachable (m : Nat) (hm : 0 < m) (loc : Loc) :
    ∃ a', cycleW m loc m ⟨[⟨0, some loc⟩], []⟩ ⟨0, 0⟩ = .ok (a', ⟨0, 0⟩) := by
  refine ⟨⟨[⟨0, some loc⟩], []⟩, ?_⟩
  rw [cycleW_spec m loc m 0 hm, Nat.zero_add, Nat.mod_self]

end Brood

#print axioms Brood.C02_unique
#print axioms Brood.C02_fresh
#print axioms Brood.C02_dead_forever
#print axioms Brood.C02_stable
#print axioms Brood.C02_no_ub
#print axioms Brood.C02_world_dead_forever
#print axioms Brood.C02_world_never_reissued
#print axioms Brood.C02_world_stable
#print axioms Brood.C02_world_dead_in_copies
#print axioms Brood.C02_world_dead_after_clone_from
#print axioms Brood.arunW_eq_arun
#print axioms Brood.C02_machine_partial
#print axioms Brood.C02_machine_simulation
#print axioms Brood.C02_machine_wrap_witness
#print axioms Brood.C02_machine_partial_m
#print axioms Brood.C02_machine_counter
#print axioms Brood.C02_churn_never_returns
#print axioms Brood.C02_churn_no_ub
#print axioms Brood.C02_machine_wrap_reachable
