/-
  C15 — Resources are addressed by type and untouched by entity operations.

  `res` is the resource list of the L1 world (position = type).  Frame theorems: every entity
  operation, whatever its arguments and outcome, leaves `res` untouched; `clone` / `clone_from`
  copy the source's resources value for value.  Lookup: a view list in any order (distinct
  positions) returns exactly the requested resources in the requested order.  The correspondence
  check compares `res` after every op with the real world (get / get_mut / view_resources in every
  generated order and kind, also after clone, clone_from and serde round trips).
  Resources inside schedules: `C15_phase_resource_safe` — of the tasks the stage runner lets run
  at the same time (static stage members not yet run + add-ons), no two hold claims on one resource
  with one of them mutable; `C15_task_leaves_unclaimed_resources` — under the footprint semantics
  a task changes no resource it does not claim mutably.
-/
import BroodModel.World
import BroodModel.Lemmas.RoundTrip
import BroodModel.Lemmas.CloneFrom
import BroodModel.Props.C08
import BroodModel.Lemmas.SchedSem

namespace Brood
open World

/-! The frame theorems: `step_res` (Lemmas/Ops), which needs no invariant, at each operation. -/

/-- `insert` never touches a resource. -/
theorem C15_insert_frame {w w' : World} {shape : List Nat} {vals : List Val} {id : Ident}
    (e : w.insert shape vals = .ok (w', id)) : w'.res = w.res :=
  step_res (op := .insert shape vals) (congrArg fstOut e)

/-- `extend` never touches a resource. -/
theorem C15_extend_frame {w w' : World} {shape : List Nat} {rows : List (List Val)} {ids : List Ident}
    (e : w.extend shape rows = .ok (w', ids)) : w'.res = w.res :=
  step_res (op := .extend shape rows) (congrArg fstOut e)

/-- `remove` never touches a resource. -/
theorem C15_remove_frame {w w' : World} {id : Ident} {drops : List Val}
    (e : w.remove id = .ok (w', drops)) : w'.res = w.res :=
  step_res (op := .remove id) (congrArg fstOut e)

/-- `clear` never touches a resource. -/
theorem C15_clear_frame {w w' : World} {order : List Mask} {drops : List Val}
    (e : w.clear order = .ok (w', drops)) : w'.res = w.res :=
  step_res (op := .clear order) (congrArg fstOut e)

/-- `reserve` and `shrink_to_fit` never touch a resource. -/
theorem C15_reserve_frame {w w' : World} {shape : List Nat} (e : w.reserve shape = .ok w') :
    w'.res = w.res :=
  step_res (op := .reserve shape) e

theorem C15_shrink_frame (w : World) : w.shrinkToFit.res = w.res := rfl

/-- Writing a component through an entry never touches a resource. -/
theorem C15_write_frame {w w' : World} {id : Ident} {c : Nat} {v : Val} {r : Option (List Val)}
    (e : w.write id c v = .ok (w', r)) : w'.res = w.res :=
  step_res (op := .write id c v) (congrArg fstOut e)

/-- `Entry::add` never touches a resource (overwrite in place, or the row moved to another table). -/
theorem C15_entry_add_frame {w w' : World} {id : Ident} {c : Nat} {v : Val} {r : Option (List Val)}
    (e : w.entryAdd id c v = .ok (w', r)) : w'.res = w.res :=
  step_res (op := .add id c v) (congrArg fstOut e)

/-- `Entry::remove` never touches a resource. -/
theorem C15_entry_remove_frame {w w' : World} {id : Ident} {c : Nat} {r : Option (List Val)}
    (e : w.entryRemove id c = .ok (w', r)) : w'.res = w.res :=
  step_res (op := .del id c) (congrArg fstOut e)

/-- A serde round trip reproduces every resource (same type, same base identity), in order. -/
theorem C15_roundtrip_res {w : World} (hi : Inv w) (hres : Serde.ResOk w) (k : Kinds) (hr : Bool) (e next : Nat) :
    ∃ w', Serde.deserialize k hr w.n w.res.length e next (Serde.serialize hr w) = .ok w' ∧
      w'.res = w.res.map (Serde.retag k e) := by
  exact ⟨_, Serde.roundtrip_closed hi hres k hr e next, rfl⟩

/-- `clone` copies the resources value for value (fresh identities, same base identities). -/
theorem C15_clone_res {w c : World} {e next : Nat} (h : w.clone e next = .ok c) :
    c.res = w.res.map (cloneVal e) ∧ c.res.length = w.res.length := by
  obtain rfl := clone_eq_ok h
  exact ⟨rfl, List.length_map _⟩

/-- `clone_from` replaces the destination's resources by copies of the source's, whatever the
destination held. -/
theorem C15_cloneFrom_res {d s d' : World} {e : Nat} {drops : List Val}
    (h : World.cloneFrom d s e = .ok (d', drops)) : d'.res = s.res.map (cloneVal e) := by
  obtain ⟨rfl, -⟩ := cloneFrom_eq_ok h
  rfl

/-- A copy has the same base identity and type: `PartialEq` sees it as equal. -/
theorem cloneVal_eqv (e : Nat) (v : Val) : Val.eqv v (cloneVal e v) = true :=
  eqv_cloneVal e v

/-- **Lookup by position, in any requested order**: viewing the resources at distinct positions
`ps` returns exactly `res[p]` for each requested `p`, in the requested order. -/
theorem C15_view (res : List Val) (ps : List Nat) (h : ∀ p ∈ ps, p < res.length) :
    ps.filterMap (fun p => res[p]?) = ps.map (fun p => res.getD p default) ∧
    (ps.filterMap (fun p => res[p]?)).length = ps.length := by
  have e : ps.filterMap (fun p => res[p]?) = ps.map (fun p => res.getD p default) :=
    filterMap_eq_map fun p hp => by
      rw [List.getD_eq_getElem?_getD, List.getElem?_eq_getElem (h p hp), Option.getD_some]
  exact ⟨e, by rw [e, List.length_map]⟩

open Static Generated in
/-- **Resources inside schedules.**  Among the tasks that may run at the same time (the tasks of a
stage that have not run yet and the next-stage tasks started early), no two claim the same resource
with one of the claims mutable — for every schedule, set of archetypes and has-run pattern. -/
theorem C15_phase_resource_safe {n nres : Nat} {masks : List Mask} (hm : masks.Nodup)
    (ts : List Task) (hwf : ∀ t ∈ ts, t.WF) (stage : List Task)
    (hs : stage ∈ stages verifierTable mergerTable ts) (next : List Task) (hasRun : List Bool) :
    ((((List.zip stage hasRun).filter (fun p => !p.2)).map (·.1)) ++
        accepted next (runStage claimTryMerge n nres masks stage hasRun next).2).Pairwise
      (fun a b => ∀ p : Nat,
        ((b.resVec nres).getD p .none).conflicts ((a.resVec nres).getD p .none) = false) :=
  (C08_phase_conflict_free hm ts hwf stage hs next hasRun).imp fun h => (vecOk_iff _ _).mp h.1

open Static Generated in
/-- Under the footprint semantics a task changes only resources it claims mutably. -/
theorem C15_task_leaves_unclaimed_resources (n nres : Nat) (masks : List Mask)
    (g : Task → (SCell → Nat) → SCell → Nat) (t : Task) (s : SCell → Nat) (p : Nat)
    (h : (t.resVec nres).getD p .none ≠ .mutable) :
    apTask n nres masks g t s (.res p) = s (.res p) :=
  if_neg h

end Brood

#print axioms Brood.C15_insert_frame
#print axioms Brood.C15_extend_frame
#print axioms Brood.C15_remove_frame
#print axioms Brood.C15_clear_frame
#print axioms Brood.C15_reserve_frame
#print axioms Brood.C15_shrink_frame
#print axioms Brood.C15_write_frame
#print axioms Brood.C15_entry_add_frame
#print axioms Brood.C15_entry_remove_frame
#print axioms Brood.C15_roundtrip_res
#print axioms Brood.C15_clone_res
#print axioms Brood.C15_cloneFrom_res
#print axioms Brood.cloneVal_eqv
#print axioms Brood.C15_view
#print axioms Brood.C15_phase_resource_safe
#print axioms Brood.C15_task_leaves_unclaimed_resources
