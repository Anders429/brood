/-
  C18 — Run-time safety preconditions are enforced at the safe API boundary.

  The shape of `assert_no_duplicates`, of `check_len`/`check_len_against`, of `Batch::new` and the
  constructor graph of `World` are re-extracted from the source on every run
  (Generated/Tables.lean); the models below are parameterised by the extracted shape and the
  theorems require the shape the current source has.  The correspondence check runs every
  constructor on generated registries with a repeated type and `Batch::new` on every combination
  of column lengths.
-/
import BroodModel.Ctor

namespace Brood
open Static Generated

theorem assertNoDup_iff (ts seen : List Nat) :
    assertNoDup (true, true) ts seen = true ↔ (ts.Nodup ∧ ∀ t ∈ ts, t ∉ seen) := by
  induction ts generalizing seen with
  | nil => simp [assertNoDup]
  | cons t ts ih =>
    simp only [assertNoDup, if_true, Bool.and_eq_true, Bool.not_eq_true', ih, List.nodup_cons,
      List.mem_cons, not_or, forall_and, forall_eq_or_imp, List.contains_eq_mem, decide_eq_false_iff_not]
    -- `t :: seen` holds no element of `ts` iff `seen` holds none and `t` is not among them
    exact ⟨fun ⟨a, b, c, d⟩ => ⟨⟨fun h => c t h rfl, b⟩, a, d⟩,
      fun ⟨⟨c, b⟩, a, d⟩ => ⟨a, b, fun x hx e => c (e ▸ hx), d⟩⟩

/-- **The duplicate check accepts exactly the duplicate-free registries** — for every registry
length, with the shape the current source has. -/
theorem C18_nodup (tys : List Nat) (h : assertNoDupShape = (true, true)) :
    assertNoDup assertNoDupShape tys [] = true ↔ tys.Nodup := by
  rw [h, assertNoDup_iff]; simp

theorem C18_shape_now : assertNoDupShape = (true, true) := by decide

/-- **Every way of obtaining a `World` passes the check**: the only functions under src/world that
build a `World` by struct literal are `from_raw_parts` (which asserts) and `clone` (which copies a
world that already exists); `new`, `with_resources`, `default` and deserialization reach a literal
only through `from_raw_parts`.  (`World`'s fields are private to `world/`, so there is no other
literal.) -/
theorem C18_all_ctors :
    (∀ f ∈ worldLiterals, f = "mod::from_raw_parts" ∨ f = "impl_clone::clone") ∧
    worldAsserts.lookup "mod::from_raw_parts" = some true ∧
    worldCalls.lookup "mod::with_resources" = some ["from_raw_parts"] ∧
    worldCalls.lookup "mod::new" = some ["with_resources"] ∧
    worldCalls.lookup "impl_default::default" = some ["with_resources"] ∧
    worldCalls.lookup "impl_serde::visit_seq" = some ["from_raw_parts"] := by decide

theorem checkLenAgainst_iff (len : Nat) (cs : List Nat) :
    checkLenAgainst true true len cs = true ↔ ∀ c ∈ cs, c = len := by
  induction cs with
  | nil => simp [checkLenAgainst]
  | cons c cs ih => simp [checkLenAgainst, ih]

/-- **`Batch::new` accepts exactly the batches whose columns all have the first column's
length**, whatever the number of columns; otherwise it panics (`assert!`), and the unchecked
constructor is `unsafe`.  Hence `extend` never stores ragged columns. -/
theorem C18_batch (cols : List Nat) (h : batchShape = [true, true, true, true, true, true]) :
    (batchShape.getD 0 false = true) ∧ (batchShape.getD 1 false = true) ∧
    (checkLen batchShape cols = true ↔ ∀ c ∈ cols.tail, c = cols.headD 0) := by
  rw [h]
  refine ⟨rfl, rfl, ?_⟩
  cases cols with
  | nil => simp [checkLen]
  | cons c cs => simp [checkLen, checkLenAgainst_iff]

theorem C18_batch_shape_now : batchShape = [true, true, true, true, true, true] := by decide

example : checkLen batchShape [2, 2, 1] = false := by decide
example : assertNoDup assertNoDupShape [0, 1, 0, 2] [] = false := by decide

end Brood

#print axioms Brood.C18_nodup
#print axioms Brood.C18_shape_now
#print axioms Brood.C18_all_ctors
#print axioms Brood.C18_batch
#print axioms Brood.C18_batch_shape_now
