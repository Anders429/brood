/-
  `Allocator::from_serialized_parts` (`Serde.fromParts`) fills the slots named by the freed
  identifiers, then those named by the stored rows, and wants no slot left empty.  Both fills are
  one fill over `entries` (`fromParts_eq`), and a fill succeeds iff its indices are distinct and
  name empty slots, and is then a plain fold of `List.set` (`fill_iff`).  So the parts are accepted
  iff they name every slot below `length`, and nothing else, exactly once (`fromParts_accepts`,
  `fromParts_eq_ok`), and the allocator returned is consistent with the tables it was built from
  (`fromParts_spec`).
-/
import BroodModel.Serde
import BroodModel.Lemmas.World

namespace Brood
namespace Serde

theorem fillSlot_iff {slots slots' : List (Option Slot)} {i : Nat} {s : Slot} {what : String} :
    fillSlot slots i s what = .ok slots' ↔ slots[i]? = some none ∧ slots' = slots.set i (some s) := by
  unfold fillSlot
  cases slots[i]? with
  | none => simp
  | some o => cases o <;> simp [eq_comm]

theorem set_some_getElem?_eq_none {l : List (Option Slot)} {i j : Nat} {s : Slot} :
    (l.set i (some s))[j]? = some none ↔ i ≠ j ∧ l[j]? = some none := by
  by_cases hij : i = j
  · rw [hij, List.getElem?_set_self']
    cases l[j]? <;> simp
  · rw [List.getElem?_set_ne hij]
    exact (and_iff_right hij).symm

theorem foldl_set_getElem? {α} {ix : α → Nat} {mk : α → Slot} {xs : List α} {init out : List (Option Slot)}
    (hn : (xs.map ix).Nodup) (ho : out = xs.foldl (fun sl x => sl.set (ix x) (some (mk x))) init) :
    out.length = init.length ∧
    (∀ x ∈ xs, ix x < init.length → out[ix x]? = some (some (mk x))) ∧
    (∀ j, j ∉ xs.map ix → out[j]? = init[j]?) := by
  induction xs generalizing init with
  | nil => exact ho ▸ ⟨rfl, nofun, fun _ _ => rfl⟩
  | cons x xs ih =>
    rw [List.map_cons, List.nodup_cons] at hn
    obtain ⟨h1, h2, h3⟩ := ih (init := init.set (ix x) (some (mk x))) hn.2 ho
    rw [List.length_set] at h1 h2
    refine ⟨h1, fun y hy hlt => ?_, fun j hj => ?_⟩
    · rcases List.mem_cons.mp hy with rfl | hy
      · rw [h3 _ hn.1, List.getElem?_set_self hlt]
      · exact h2 y hy hlt
    · rw [List.map_cons, List.mem_cons, not_or] at hj
      rw [h3 j hj.2, List.getElem?_set_ne (Ne.symm hj.1)]

theorem fill_iff {α} {ix : α → Nat} {mk : α → Slot} {what : α → String} {xs : List α}
    {init out : List (Option Slot)} :
    xs.foldlM (fun sl x => fillSlot sl (ix x) (mk x) (what x)) init = .ok out ↔
      (xs.map ix).Nodup ∧ (∀ x ∈ xs, init[ix x]? = some none) ∧
      out = xs.foldl (fun sl x => sl.set (ix x) (some (mk x))) init := by
  induction xs generalizing init with
  | nil => simp [pure, Except.pure, eq_comm]
  | cons x xs ih =>
    rw [List.foldlM_cons, List.map_cons, List.nodup_cons, List.forall_mem_cons, List.foldl_cons]
    cases h : fillSlot init (ix x) (mk x) (what x) with
    | error e =>
      exact ⟨nofun, fun ⟨_, ⟨h0, _⟩, _⟩ => by rw [fillSlot_iff.mpr ⟨h0, rfl⟩] at h; cases h⟩
    | ok mid =>
      obtain ⟨h0, rfl⟩ := fillSlot_iff.mp h
      -- the rest fills `init` with slot `ix x` taken: its indices avoid `ix x` and name slots empty in `init`
      refine ih.trans ⟨fun ⟨hnd, hempty, hout⟩ => ?_,
        fun ⟨⟨hx, hnd⟩, ⟨_, hempty⟩, hout⟩ => ⟨hnd, fun y hy => ?_, hout⟩⟩
      · have hy := fun y hym => set_some_getElem?_eq_none.mp (hempty y hym)
        refine ⟨⟨fun hm => ?_, hnd⟩, ⟨h0, fun y hym => (hy y hym).2⟩, hout⟩
        obtain ⟨y, hym, hxy⟩ := List.mem_map.mp hm
        exact (hy y hym).1 hxy.symm
      · exact set_some_getElem?_eq_none.mpr
          ⟨fun hxy => hx (List.mem_map.mpr ⟨y, hy, hxy.symm⟩), hempty y hy⟩

/-- The rows `from_serialized_parts` walks: every stored identifier with its location. -/
def rowsOf (archs : List Arch) : List (Ident × Loc) :=
  archs.flatMap (fun a => (List.zip a.ids (List.range a.ids.length)).map (fun p => (p.1, ⟨a.handle, p.2⟩)))

theorem mem_rowsOf {archs : List Arch} {id : Ident} {l : Loc} :
    (id, l) ∈ rowsOf archs ↔ ∃ a ∈ archs, l.arch = a.handle ∧ a.ids[l.row]? = some id := by
  simp only [rowsOf, List.range_eq_range', ← List.zipIdx_eq_zip_range', List.mem_flatMap, List.mem_map,
    Prod.exists, List.mk_mem_zipIdx_iff_getElem?, Prod.mk.injEq]
  refine exists_congr fun a => and_congr_right fun _ =>
    ⟨?_, fun ⟨h1, h2⟩ => ⟨id, l.row, h2, rfl, by rw [← h1]⟩⟩
  rintro ⟨i, r, hp, rfl, rfl⟩
  exact ⟨rfl, hp⟩

/-- Every identifier the parts mention, with where it is stored (`none`: freed), in the order
`from_serialized_parts` fills their slots. -/
def entries (free : List Ident) (archs : List Arch) : List (Ident × Option Loc) :=
  free.map (·, none) ++ (rowsOf archs).map fun p => (p.1, some p.2)

/-- The slot indices `from_serialized_parts` is told about: freed ones, then stored ones. -/
def named (free : List Ident) (archs : List Arch) : List Nat :=
  free.map (·.index) ++ (rowsOf archs).map (·.1.index)

theorem entries_index (free : List Ident) (archs : List Arch) :
    (entries free archs).map (·.1.index) = named free archs := by
  simp [entries, named, Function.comp_def]

theorem mem_named {free : List Ident} {archs : List Arch} {i : Nat} :
    i ∈ named free archs ↔ ∃ e ∈ entries free archs, e.1.index = i := by
  rw [← entries_index, List.mem_map]

-- The matches of `fromParts` and the binds below unfold to the same `casesOn`s; with smart
-- unfolding on, `rfl` does not unfold a match on a variable (see Lemmas/Parse).
set_option smartUnfolding false in
/-- The two fills are one fill over `entries` (`if e.2.isNone …` picks the error message). -/
theorem fromParts_eq (length : Nat) (free : List Ident) (archs : List Arch) :
    fromParts length free archs = (do
      let sl ← (entries free archs).foldlM (fun sl e => fillSlot sl e.1.index ⟨e.1.gen, e.2⟩
        (if e.2.isNone then "freed-entity-index" else "archetype-entity-index")) (List.replicate length none)
      if sl.any Option.isNone then .error "missing-entity-index"
      else pure ⟨sl.filterMap id, free.map (·.index)⟩) := by
  simp only [entries, List.foldlM_append, List.foldlM_map, bind_assoc]
  rfl

theorem replicate_none_getElem? {length i : Nat} :
    (List.replicate length (none : Option Slot))[i]? = some none ↔ i < length := by
  rw [List.getElem?_replicate]; split <;> simp [*]

theorem map_some_filterMap_id {α} {l : List (Option α)} (h : l.any Option.isNone = false) :
    (l.filterMap id).map some = l := by
  induction l with
  | nil => rfl
  | cons x xs ih =>
    simp only [List.any_cons, Bool.or_eq_false_iff] at h
    cases x with
    | none => simp at h
    | some s => simp [ih h.2]

/-- **Acceptance criterion**: the parts are accepted as soon as they name every slot below `length`,
and nothing else, exactly once. -/
theorem fromParts_accepts {length : Nat} {free : List Ident} {archs : List Arch}
    (hn : (named free archs).Nodup) (hc : ∀ i, i ∈ named free archs ↔ i < length) :
    ∃ al, fromParts length free archs = .ok al := by
  rw [← entries_index] at hn
  obtain ⟨h1, h2, -⟩ := foldl_set_getElem? (mk := fun e : Ident × Option Loc => ⟨e.1.gen, e.2⟩)
    (init := List.replicate length none) hn rfl
  rw [fromParts_eq, fill_iff.mpr
    ⟨hn, fun e he => replicate_none_getElem?.mpr ((hc _).mp (mem_named.mpr ⟨e, he, rfl⟩)), rfl⟩]
  refine ⟨_, if_neg ?_⟩
  -- no slot is left empty: each is named, so it was filled
  rw [Bool.not_eq_true, List.any_eq_false]
  intro o ho
  obtain ⟨i, hi⟩ := List.getElem?_of_mem ho
  have hil := (List.getElem?_eq_some_iff.mp hi).1
  rw [h1] at hil
  obtain ⟨e, he, rfl⟩ := mem_named.mp ((hc i).mpr (by simpa using hil))
  rw [h2 e he hil] at hi
  cases hi
  nofun

/-- **`from_serialized_parts`, inverted**: accepted parts name every slot below `length`, and
nothing else, exactly once; the allocator has `length` slots and each entry's slot says what the
entry says. -/
theorem fromParts_eq_ok {length : Nat} {free : List Ident} {archs : List Arch} {al : Alloc}
    (h : fromParts length free archs = .ok al) :
    (named free archs).Nodup ∧ (∀ i, i ∈ named free archs ↔ i < length) ∧
    al.free = free.map (·.index) ∧ al.slots.length = length ∧
    ∀ e ∈ entries free archs, al.slots[e.1.index]? = some ⟨e.1.gen, e.2⟩ := by
  rw [fromParts_eq] at h
  generalize hf : List.foldlM (m := Except String) _ _ (entries free archs) = r at h
  cases r with
  | error _ => cases h
  | ok sl =>
    obtain ⟨hn, hempty, hsl⟩ := fill_iff.mp hf
    obtain ⟨h1, h2, h3⟩ := foldl_set_getElem? hn hsl
    rw [entries_index] at hn h3
    rw [List.length_replicate] at h1 h2
    have hlt : ∀ e ∈ entries free archs, e.1.index < length :=
      fun e he => replicate_none_getElem?.mp (hempty e he)
    change (if _ then _ else _) = _ at h
    have hfull : ¬ sl.any Option.isNone = true := fun hany => by rw [if_pos hany] at h; cases h
    rw [if_neg hfull] at h
    cases h
    have hmap := map_some_filterMap_id (Bool.not_eq_true _ ▸ hfull)
    refine ⟨hn, fun i => ⟨fun hi => ?_, fun hi => Classical.byContradiction fun hni => hfull ?_⟩, rfl,
      by rw [← List.length_map (f := some), hmap, h1], fun e he => ?_⟩
    · obtain ⟨e, he, rfl⟩ := mem_named.mp hi
      exact hlt e he
    · -- a slot that is not named is still empty
      exact List.any_eq_true.mpr ⟨none, List.mem_of_getElem? (i := i)
        (by rw [h3 i hni]; exact replicate_none_getElem?.mpr hi), rfl⟩
    · have := h2 e he (hlt e he)
      rw [← hmap, List.getElem?_map] at this
      obtain ⟨s, hs, hss⟩ := Option.map_eq_some_iff.mp this
      cases hss
      exact hs

theorem fromParts_length {length : Nat} {free : List Ident} {archs : List Arch} {al : Alloc}
    (h : fromParts length free archs = .ok al) : al.slots.length = length := (fromParts_eq_ok h).2.2.2.1

/-- What an accepted `from_serialized_parts` guarantees. -/
structure PartsOk (free : List Ident) (archs : List Arch) (al : Alloc) : Prop where
  free_eq : al.free = free.map (·.index)
  free_nodup : (free.map (·.index)).Nodup
  free_slot : ∀ f ∈ free, al.slots[f.index]? = some ⟨f.gen, none⟩
  row_slot : ∀ id l, (id, l) ∈ rowsOf archs → al.slots[id.index]? = some ⟨id.gen, some l⟩
  row_not_free : ∀ id l, (id, l) ∈ rowsOf archs → id.index ∉ free.map (·.index)
  cover : ∀ (i : Nat) (s : Slot), al.slots[i]? = some s →
    (∃ f ∈ free, f.index = i ∧ s = ⟨f.gen, none⟩) ∨
    (∃ id l, (id, l) ∈ rowsOf archs ∧ id.index = i ∧ s = ⟨id.gen, some l⟩)

theorem fromParts_spec {length : Nat} {free : List Ident} {archs : List Arch} {al : Alloc}
    (h : fromParts length free archs = .ok al) : PartsOk free archs al := by
  obtain ⟨hn, hc, hfree, hlen, hslot⟩ := fromParts_eq_ok h
  obtain ⟨n1, -, n3⟩ := List.nodup_append.mp hn
  refine ⟨hfree, n1, fun f hf => ?_, fun id l hm => ?_, fun id l hm hf => ?_, fun i s hs => ?_⟩
  · exact hslot (f, none) (List.mem_append_left _ (List.mem_map_of_mem hf))
  · exact hslot (id, some l) (List.mem_append_right _ (List.mem_map_of_mem (f := fun p => (p.1, some p.2)) hm))
  · exact n3 _ hf _ (List.mem_map_of_mem (f := (·.1.index)) hm) rfl
  · obtain ⟨e, he, rfl⟩ := mem_named.mp ((hc i).mpr (hlen ▸ (List.getElem?_eq_some_iff.mp hs).1))
    rw [hslot e he] at hs
    cases hs
    rcases List.mem_append.mp he with he | he
    · obtain ⟨f, hf, rfl⟩ := List.mem_map.mp he
      exact .inl ⟨f, hf, rfl, rfl⟩
    · obtain ⟨p, hp, rfl⟩ := List.mem_map.mp he
      exact .inr ⟨p.1, p.2, hp, rfl, rfl⟩

end Serde
end Brood
