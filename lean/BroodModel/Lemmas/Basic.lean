/-
  Lists.  Facts stated place by place; one element appended, or a list split at a position;
  `Vec::swap_remove` (BroodModel.Basic.swapRemove): drop the last element, then overwrite position
  `i` with it; duplicate-free lists and `lookup` under distinct keys; sums; sorting distinct
  numbers.
-/
import BroodModel.Basic

namespace Brood

/-! ### place by place -/

theorem filterMap_congr' {α β} {f g : α → Option β} {l : List α} (h : ∀ x ∈ l, f x = g x) :
    l.filterMap f = l.filterMap g := by
  induction l with
  | nil => rfl
  | cons x xs ih =>
    rw [List.filterMap_cons, List.filterMap_cons, h x (by simp), ih (fun y hy => h y (by simp [hy]))]

theorem filterMap_eq_map {α β} {f : α → Option β} {g : α → β} {l : List α}
    (h : ∀ x ∈ l, f x = some (g x)) : l.filterMap f = l.map g :=
  (filterMap_congr' h).trans (congrFun List.filterMap_eq_map l)

theorem getElem?_eq_some_getD {α} {l : List α} {i : Nat} (h : i < l.length) (d : α) :
    l[i]? = some (l.getD i d) :=
  (List.getElem?_eq_getElem h).trans (congrArg some (List.getElem_eq_getD d))

theorem map_range_getD {α} (l : List α) (d : α) : (List.range l.length).map (l.getD · d) = l := by
  refine List.ext_getElem (by rw [List.length_map, List.length_range]) fun r _ _ => ?_
  rw [List.getElem_map, List.getElem_range]
  exact (List.getElem_eq_getD d).symm

theorem zipWith_all_iff {α β} (f : α → β → Bool) (l : List α) (m : List β) :
    (List.zipWith f l m).all id = true ↔
      ∀ (k : Nat) (x : α) (y : β), l[k]? = some x → m[k]? = some y → f x y = true := by
  simp only [List.all_eq_true, id, List.mem_iff_getElem?, List.getElem?_zipWith_eq_some]
  exact ⟨fun h k x y hx hy => h _ ⟨k, x, y, hx, hy, rfl⟩,
    fun h _ ⟨k, x, y, hx, hy, e⟩ => e ▸ h k x y hx hy⟩

/-! ### one element appended; a list split at a position -/

theorem getElem?_append_singleton {α} (l : List α) (x : α) (j : Nat) :
    (l ++ [x])[j]? = if j = l.length then some x else l[j]? := by
  rw [List.getElem?_append]
  split
  next h => rw [if_neg (Nat.ne_of_lt h)]
  next h =>
    split
    next e => rw [e, Nat.sub_self]; rfl
    next e => rw [List.getElem?_singleton, if_neg (by omega), List.getElem?_eq_none (Nat.le_of_not_lt h)]

theorem nodup_append_singleton {α} {l : List α} {x : α} (hl : l.Nodup) (hx : x ∉ l) : (l ++ [x]).Nodup :=
  List.nodup_append.mpr ⟨hl, List.nodup_cons.mpr ⟨List.not_mem_nil, List.nodup_nil⟩, fun _ ha _ hb => by
    rw [List.mem_singleton.mp hb]; exact fun e => hx (e ▸ ha)⟩

theorem forall_mem_concat {α} {P : α → Prop} {l : List α} {x : α} (h : ∀ y ∈ l, P y) (hx : P x) :
    ∀ y ∈ l ++ [x], P y :=
  List.forall_mem_append.mpr ⟨h, List.forall_mem_singleton.mpr hx⟩

theorem nodup_map_concat {α β} {f : α → β} {l : List α} {x : α} (hl : (l.map f).Nodup)
    (hx : ∀ y ∈ l, f y ≠ f x) : ((l ++ [x]).map f).Nodup := by
  rw [List.map_append]
  exact nodup_append_singleton hl fun h => by
    obtain ⟨y, hy, e⟩ := List.mem_map.mp h
    exact hx y hy e

theorem eq_take_cons_drop {α} {l : List α} {k : Nat} {x : α} (h : l[k]? = some x) :
    l = l.take k ++ x :: l.drop (k + 1) := by
  obtain ⟨hk, rfl⟩ := List.getElem?_eq_some_iff.mp h
  rw [List.getElem_cons_drop hk, List.take_append_drop]

theorem set_perm_cons {α} {l : List α} {r : Nat} {x : α} (y : α) (h : l[r]? = some x) :
    ∃ m, l.Perm (x :: m) ∧ (l.set r y).Perm (y :: m) := by
  refine ⟨l.take r ++ l.drop (r + 1), (List.Perm.of_eq (eq_take_cons_drop h)).trans List.perm_middle, ?_⟩
  rw [List.set_eq_take_append_cons_drop, if_pos (List.getElem?_eq_some_iff.mp h).1]
  exact List.perm_middle

/-! ### `swap_remove` -/

theorem swapRemove_concat {α} (l : List α) (b : α) (i : Nat) : swapRemove (l ++ [b]) i = l.set i b := by
  simp [swapRemove, List.dropLast_eq_take, List.take_set]

theorem swapRemove_length {α} (l : List α) (i : Nat) : (swapRemove l i).length = l.length - 1 := by
  rcases List.eq_nil_or_concat l with rfl | ⟨l, b, rfl⟩
  · rfl
  · simp [swapRemove_concat]

theorem mem_swapRemove {α} {l : List α} {i : Nat} {x : α} (h : x ∈ swapRemove l i) : x ∈ l := by
  rcases List.eq_nil_or_concat l with rfl | ⟨l, b, rfl⟩
  · exact h
  · rw [List.concat_eq_append, swapRemove_concat] at h
    rcases List.mem_or_eq_of_mem_set h with h | h <;> simp [h]

theorem swapRemove_getElem? {α} (l : List α) {i : Nat} (h : i < l.length) (j : Nat) :
    (swapRemove l i)[j]? =
      if j = l.length - 1 then none else if j = i then l[l.length - 1]? else l[j]? := by
  rcases List.eq_nil_or_concat l with rfl | ⟨l, b, rfl⟩
  · simp at h
  have h : i ≤ l.length := by simpa [Nat.lt_succ_iff] using h
  simp only [List.concat_eq_append, swapRemove_concat, List.getElem?_set, List.length_append,
    List.length_singleton, Nat.add_sub_cancel, List.getElem?_concat_length]
  rcases Nat.lt_trichotomy j l.length with hj | hj | hj
  · rw [if_neg (Nat.ne_of_lt hj), List.getElem?_append_left hj]
    by_cases hij : i = j
    · subst hij; simp [hj]
    · simp [hij, Ne.symm hij]
  · subst hj
    by_cases hij : i = l.length <;> simp [hij]
  · rw [if_neg (Nat.ne_of_gt hj), if_neg (by omega), if_neg (by omega),
      List.getElem?_eq_none (Nat.le_of_lt hj), List.getElem?_eq_none (by simp; omega)]

theorem swapRemove_perm {α} {l : List α} {r : Nat} {x : α} (h : l[r]? = some x) :
    l.Perm (x :: swapRemove l r) := by
  rcases List.eq_nil_or_concat l with rfl | ⟨l, z, rfl⟩
  · cases h
  rw [List.concat_eq_append] at h ⊢
  rw [swapRemove_concat]
  by_cases hr : r < l.length
  · rw [List.getElem?_append_left hr] at h
    obtain ⟨m, h1, h2⟩ := set_perm_cons z h
    exact ((List.perm_append_singleton z l).trans (h1.cons z)).trans
      ((List.Perm.swap x z m).trans (h2.symm.cons x))
  · rw [List.getElem?_append_right (Nat.le_of_not_lt hr)] at h
    obtain rfl : z = x := by
      cases hk : r - l.length with
      | zero => simpa [hk] using h
      | succ k => simp [hk] at h
    rw [List.set_eq_of_length_le (Nat.le_of_not_lt hr)]
    exact List.perm_append_singleton z l

/-! ### duplicate-free lists, pairwise relations, `lookup` -/

theorem eq_of_nodup_map {α β} {f : α → β} {l : List α} (hn : (l.map f).Nodup) {a b : α}
    (ha : a ∈ l) (hb : b ∈ l) (h : f a = f b) : a = b := by
  have hp : l.Pairwise (fun x y => f x = f y → x = y) := (List.pairwise_map.mp hn).imp fun hne e => absurd e hne
  exact hp.forall_of_forall_of_flip (fun _ _ _ => rfl) (hp.imp fun h e => (h e.symm).symm) ha hb h

/-- Pigeonhole on duplicate-free lists. -/
theorem subset_of_nodup_length {α} [DecidableEq α] {l1 l2 : List α} (h1 : l1.Nodup)
    (hs : ∀ x ∈ l1, x ∈ l2) (hl : l2.length ≤ l1.length) : ∀ x ∈ l2, x ∈ l1 := by
  induction l1 generalizing l2 with
  | nil =>
    rw [List.length_eq_zero_iff.mp (Nat.le_zero.mp hl)]
    exact fun _ hx => hx
  | cons y ys ih =>
    intro x hx
    rw [List.nodup_cons] at h1
    by_cases hxy : x = y
    · exact hxy ▸ List.mem_cons_self
    -- without `y`, the rest of `l1` is still within the rest of `l2`, which is still no longer
    refine List.mem_cons_of_mem _ (ih (l2 := l2.erase y) h1.2 (fun z hz => ?_) ?_ x
      ((List.mem_erase_of_ne hxy).mpr hx))
    · exact (List.mem_erase_of_ne fun (e : z = y) => h1.1 (e ▸ hz)).mpr (hs z (List.mem_cons_of_mem _ hz))
    · rw [List.length_erase_of_mem (hs y List.mem_cons_self)]
      exact Nat.sub_le_of_le_add hl

theorem pairwise_getElem?_ne {α : Type} {R : α → α → Prop} (hsym : ∀ {a b}, R a b → R b a) {l : List α}
    (hpw : l.Pairwise R) {i j : Nat} {a b : α} (hi : l[i]? = some a) (hj : l[j]? = some b) (hne : i ≠ j) :
    R a b := by
  obtain ⟨hi', rfl⟩ := List.getElem?_eq_some_iff.mp hi
  obtain ⟨hj', rfl⟩ := List.getElem?_eq_some_iff.mp hj
  rcases Nat.lt_or_gt_of_ne hne with h | h
  · exact List.pairwise_iff_getElem.mp hpw i j hi' hj' h
  · exact hsym (List.pairwise_iff_getElem.mp hpw j i hj' hi' h)

theorem lookup_some_iff {α β} [DecidableEq α] {l : List (α × β)} (hn : (l.map (·.1)).Nodup) {c : α} {v : β} :
    l.lookup c = some v ↔ (c, v) ∈ l := by
  induction l with
  | nil => simp
  | cons p ps ih =>
    obtain ⟨k, x⟩ := p
    simp only [List.map_cons, List.nodup_cons] at hn
    simp only [List.lookup_cons, List.mem_cons, Prod.mk.injEq]
    by_cases hck : c = k
    · subst hck
      simp only [beq_self_eq_true, Option.some.injEq, true_and]
      exact ⟨fun h => .inl h.symm,
        fun h => h.elim Eq.symm fun h => absurd (List.mem_map.mpr ⟨(c, v), h, rfl⟩) hn.1⟩
    · simp only [beq_eq_false_iff_ne.mpr hck, hck, false_and, false_or]
      exact ih hn.2

/-! ### sums, sublists -/

theorem sum_map_add {α} (l : List α) (f g : α → Nat) :
    (l.map fun a => f a + g a).sum = (l.map f).sum + (l.map g).sum := by
  induction l with
  | nil => rfl
  | cons a as ih => simp only [List.map_cons, List.sum_cons, ih]; omega

theorem sum_map_eq_zero {α} {l : List α} {f : α → Nat} (h : ∀ a ∈ l, f a = 0) : (l.map f).sum = 0 :=
  List.sum_eq_zero_iff_forall_eq_nat.mpr fun _ hx =>
    let ⟨a, ha, e⟩ := List.mem_map.mp hx; e ▸ h a ha

theorem sum_filter_if {α} (f : α → Nat) (p : α → Bool) (l : List α) :
    ((l.filter (fun a => !p a)).map f).sum = (l.map (fun a => if p a then 0 else f a)).sum := by
  induction l with
  | nil => rfl
  | cons a as ih => cases hp : p a <;> simp [hp, ih]

theorem zip_map_fst_sublist {α β} (l : List α) (m : List β) : ((List.zip l m).map (·.1)).Sublist l := by
  rw [List.zip_eq_zip_take_min, List.map_fst_zip (by simp)]
  exact List.take_sublist _ _

/-! ### sorting distinct numbers -/

theorem mergeSort_eq_of_perm {l1 l2 : List Nat} (hp : l1.Perm l2) :
    l1.mergeSort (fun x y => decide (x ≤ y)) = l2.mergeSort (fun x y => decide (x ≤ y)) := by
  have htr : ∀ a b c : Nat, decide (a ≤ b) = true → decide (b ≤ c) = true → decide (a ≤ c) = true := by
    intro a b c h1 h2; simp at *; omega
  have htot : ∀ a b : Nat, (decide (a ≤ b) || decide (b ≤ a)) = true := by
    intro a b; simp; omega
  apply List.Perm.eq_of_pairwise (le := fun a b => decide (a ≤ b) = true)
  · intro a b _ _ h1 h2; simp at h1 h2; omega
  · exact List.pairwise_mergeSort htr htot l1
  · exact List.pairwise_mergeSort htr htot l2
  · exact ((List.mergeSort_perm l1 _).trans hp).trans (List.mergeSort_perm l2 _).symm

theorem mergeSort_eq_filter_range {l : List Nat} (hnd : l.Nodup) {n : Nat} {p : Nat → Bool}
    (hmem : ∀ j, j ∈ l ↔ j < n ∧ p j = true) :
    l.mergeSort (fun x y => decide (x ≤ y)) = (List.range n).filter p := by
  have hsorted : ((List.range n).filter p).Pairwise (fun x y => decide (x ≤ y) = true) :=
    (List.pairwise_lt_range.imp fun h => decide_eq_true (Nat.le_of_lt h)).filter p
  rw [← List.mergeSort_of_pairwise hsorted]
  refine mergeSort_eq_of_perm
    ((List.perm_ext_iff_of_nodup hnd (List.nodup_range.sublist List.filter_sublist)).mpr fun j => ?_)
  rw [hmem, List.mem_filter, List.mem_range]

end Brood
