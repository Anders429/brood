/-
  Conservation of component values (C04): for every operation, the values owned afterwards plus
  the values dropped are exactly the values owned before plus the values moved in — counted with
  multiplicity (`List.count`), so "dropped exactly once" and "never lost" are one equation.
  What a world owns is what its stored entities hold, plus the resources (`World.cnt_eq_ents`);
  so each equation is the exchange of entities of Lemmas/Ents, counted.
-/
import BroodModel.Lemmas.Entity

namespace Brood
open Alloc
open Serde (ArchShape)

/-- How many times value `x` is stored in table `a`. -/
def Arch.cnt (x : Val) (a : Arch) : Nat := (a.cols.map (List.count x)).sum

/-- How many times value `x` is owned by the world (columns + resources). -/
def World.cnt (w : World) (x : Val) : Nat := (w.archs.map (Arch.cnt x)).sum + w.res.count x

theorem Arch.cnt_eq (x : Val) (a : Arch) : a.cnt x = a.values.count x := by
  unfold Arch.cnt Arch.values; rw [List.count_flatten]

theorem World.cnt_eq (w : World) (x : Val) : w.cnt x = w.values.count x := by
  rw [World.cnt, World.values, List.count_append, List.count_flatMap]
  exact congrArg (List.sum · + _) (List.map_congr_left fun a _ => Arch.cnt_eq x a)

/-! ### columns and rows hold the same values -/

theorem count_eq_sum_range (x : Val) (c : List Val) :
    ((List.range c.length).map fun r => if c[r]? = some x then 1 else 0).sum = c.count x := by
  induction c with
  | nil => rfl
  | cons y ys ih =>
    simp only [List.length_cons, List.range_succ_eq_map, List.map_cons, List.map_map, List.sum_cons,
      List.count_cons, Function.comp_def, List.getElem?_cons_zero, List.getElem?_cons_succ, ih]
    simp only [Option.some.injEq, beq_iff_eq]; omega

/-- The table transposed: counting by rows is counting by columns. -/
theorem sum_count_rows (x : Val) (cols : List (List Val)) (n : Nat) (h : ∀ c ∈ cols, c.length = n) :
    ((List.range n).map fun r => (cols.filterMap (·[r]?)).count x).sum = (cols.map (List.count x)).sum := by
  induction cols with
  | nil => simp [List.map_const', List.sum_replicate_nat]
  | cons c cs ih =>
    obtain rfl := h c (by simp)
    rw [List.map_cons, List.sum_cons, ← ih (fun y hy => h y (by simp [hy])), ← count_eq_sum_range x c,
      ← sum_map_add]
    refine congrArg _ (List.map_congr_left fun r hr => ?_)
    simp only [List.filterMap_cons, List.getElem?_eq_getElem (List.mem_range.mp hr), List.count_cons,
      Option.some.injEq, beq_iff_eq]
    omega

theorem Arch.cnt_eq_ents {n : Nat} {a : Arch} (s : ArchShape n a) (x : Val) :
    a.cnt x = (a.ents.flatMap (·.vals)).count x := by
  rw [List.count_flatMap, a.ents_eq_map, List.map_map, Arch.cnt, ← sum_count_rows x a.cols _ s.cols_all_len]
  rfl

theorem World.cnt_eq_ents {w : World} (hi : Inv w) (x : Val) :
    w.cnt x = (w.ents.flatMap (·.vals)).count x + w.res.count x := by
  rw [World.cnt, World.ents, List.flatMap_assoc, List.count_flatMap]
  exact congrArg (·.sum + _) (List.map_congr_left fun a ha => Arch.cnt_eq_ents (hi.archOk ha).shape x)

/-! ### an exchange of entities, counted -/

theorem cnt_appended {w w' : World} (hi : Inv w) (hi' : Inv w') (hres : w'.res = w.res) {news : List Ent}
    (h : w'.ents.Perm (news ++ w.ents)) (x : Val) :
    w'.cnt x = w.cnt x + (news.flatMap (·.vals)).count x := by
  rw [World.cnt_eq_ents hi, World.cnt_eq_ents hi', hres, (h.flatMap_right (·.vals)).count_eq,
    List.flatMap_append, List.count_append]
  omega

theorem cnt_replaced {w w' : World} (hi : Inv w) (hi' : Inv w') (hres : w'.res = w.res) {id : Ident}
    {vs cv : List Val} {m : List Ent} (h : w.ents.Perm (⟨id, vs⟩ :: m)) (h' : w'.ents.Perm (⟨id, cv⟩ :: m))
    (x : Val) : w'.cnt x + vs.count x = w.cnt x + cv.count x := by
  rw [World.cnt_eq_ents hi, World.cnt_eq_ents hi', hres, (h.flatMap_right (·.vals)).count_eq,
    (h'.flatMap_right (·.vals)).count_eq]
  simp only [List.flatMap_cons, List.count_append]
  omega

theorem cnt_of_ents_eq {w w' : World} (hi : Inv w) (hi' : Inv w') (hres : w'.res = w.res)
    (h : w'.ents = w.ents) (x : Val) : w'.cnt x = w.cnt x := by
  rw [World.cnt_eq_ents hi, World.cnt_eq_ents hi', hres, h]

/-! ### a row changed in one place -/

theorem count_set_add {l : List Val} {k : Nat} {old : Val} (v x : Val) (h : l[k]? = some old) :
    (l.set k v).count x + [old].count x = l.count x + [v].count x := by
  obtain ⟨m, h1, h2⟩ := set_perm_cons v h
  rw [h1.count_eq, h2.count_eq]
  simp only [List.count_cons, List.count_nil]; omega

theorem count_insertAt (x : Val) (l : List Val) (k : Nat) (v : Val) :
    (World.insertAt l k v).count x = l.count x + [v].count x := by
  have : l.count x = (l.take k).count x + (l.drop k).count x := by
    rw [← List.count_append, List.take_append_drop]
  simp only [World.insertAt, List.count_append, List.count_cons, List.count_nil]
  omega

theorem count_eraseIdx (x : Val) (l : List Val) (k : Nat) :
    (l.eraseIdx k).count x + ((l.drop k).take 1).count x = l.count x := by
  induction l generalizing k with
  | nil => simp
  | cons y ys ih =>
    cases k with
    | zero => simp [List.count_cons]
    | succ k =>
      have := ih k
      simp only [List.eraseIdx_cons_succ, List.drop_succ_cons, List.count_cons]
      omega

/-! ### per-operation conservation laws -/

theorem insert_cnt (x : Val) {w w' : World} {shape : List Nat} {vals : List Val} {nid : Ident}
    (hi : Inv w) (e : w.insert shape vals = .ok (w', nid)) :
    w'.cnt x = w.cnt x + (World.canonVals w.n shape vals).count x := by
  obtain ⟨hres, h⟩ := insert_ents hi e
  simpa using cnt_appended (news := [_]) hi (insert_inv hi e) hres h x

theorem extend_cnt (x : Val) {w w' : World} {shape : List Nat} {rows : List (List Val)}
    {ids : List Ident} (hi : Inv w) (e : w.extend shape rows = .ok (w', ids)) :
    w'.cnt x = w.cnt x + ((rows.map (World.canonVals w.n shape)).flatten).count x := by
  obtain ⟨hres, hl, h⟩ := extend_ents hi e
  rw [cnt_appended hi (extend_inv hi e) hres h x, List.flatMap_def,
    zipWith_mk_vals (by rw [hl, List.length_map])]

theorem remove_cnt (x : Val) {w w' : World} {id : Ident} {drops : List Val} (hi : Inv w)
    (e : w.remove id = .ok (w', drops)) : w'.cnt x + drops.count x = w.cnt x := by
  have hi' := remove_inv hi e
  rcases remove_cases hi e with ⟨-, rfl, rfl⟩ | ⟨a, r, w1, al, la, tk, -, rfl, rfl⟩
  · rfl
  · have h := tk.ents hi la
    simpa using (cnt_appended (news := [_]) hi' hi tk.res.symm h x).symm

theorem clear_cnt (x : Val) {w w' : World} {order : List Mask} {drops : List Val} (hi : Inv w)
    (e : w.clear order = .ok (w', drops)) : w'.cnt x + drops.count x = w.cnt x := by
  have hi' := clear_inv hi e
  obtain ⟨-, -, hres, rfl⟩ := clear_cases e
  rw [World.cnt_eq_ents hi', clear_ents e, hres,
    ((visitOrder_perm w order).flatMap_right Arch.values).count_eq, World.cnt_eq,
    World.values, List.count_append, List.flatMap_nil, List.count_nil]
  omega

theorem Overwrote.cnt {w w' : World} {id : Ident} {a : Arch} {k r : Nat} {old v : Val} (hi : Inv w)
    (la : LiveAt w id a r) (o : Overwrote w a k r old v w') (x : Val) :
    w'.cnt x + [old].count x = w.cnt x + [v].count x := by
  obtain ⟨m, h1, h2⟩ := o.ents hi la
  have c1 := cnt_replaced hi (o.inv hi la.find) o.res h1 h2 x
  obtain ⟨col, hcol, hold, -, -⟩ := o
  have c2 := count_set_add v x (row_getElem la.ok.shape la.row_lt hcol hold)
  omega

theorem Moved.cnt {w w' : World} {id : Ident} {a : Arch} {r : Nat} {m' : Mask} {cv : List Val}
    (hi : Inv w) (la : LiveAt w id a r) (mv : Moved w id a r m' cv w') (x : Val) :
    w'.cnt x + (a.row r).count x = w.cnt x + cv.count x :=
  let ⟨_, h1, h2⟩ := mv.ents hi la
  cnt_replaced hi mv.inv mv.res h1 h2 x

theorem entryAdd_cnt (x : Val) {w w' : World} {id : Ident} {c : Nat} {v : Val} {res : Option (List Val)}
    (hi : Inv w) (e : w.entryAdd id c v = .ok (w', res)) :
    w'.cnt x + (res.getD []).count x = w.cnt x + (if res.isSome then [v] else []).count x := by
  rcases entryAdd_cases hi e with ⟨-, rfl, rfl⟩ | ⟨a, r, la, ⟨-, old, o, rfl⟩ | ⟨-, rfl, mv⟩⟩
  · rfl
  · exact o.cnt hi la x
  · have c1 := mv.cnt hi la x
    rw [count_insertAt] at c1
    simp only [Option.getD_some, Option.isSome_some, if_true, List.count_nil]
    omega

theorem entryRemove_cnt (x : Val) {w w' : World} {id : Ident} {c : Nat} {res : Option (List Val)}
    (hi : Inv w) (e : w.entryRemove id c = .ok (w', res)) :
    w'.cnt x + (res.getD []).count x = w.cnt x := by
  rcases entryRemove_cases hi e with ⟨-, rfl, rfl⟩ | ⟨a, r, la, ⟨-, rfl, rfl⟩ | ⟨-, rfl, mv⟩⟩
  · rfl
  · rfl
  · have c1 := mv.cnt hi la x
    have c2 := count_eraseIdx x (a.row r) (colIndex a.mask c)
    simp only [Option.getD_some]
    omega

theorem write_cnt (x : Val) {w w' : World} {id : Ident} {c : Nat} {v : Val} {res : Option (List Val)}
    (hi : Inv w) (e : w.write id c v = .ok (w', res)) :
    w'.cnt x + (res.getD []).count x = w.cnt x + (if res.isSome then [v] else []).count x := by
  rcases write_cases hi e with ⟨-, rfl, rfl⟩ | ⟨a, r, la, ⟨-, rfl, rfl⟩ | ⟨-, old, o, rfl⟩⟩
  · rfl
  · rfl
  · exact o.cnt hi la x

theorem reserve_cnt (x : Val) {w w' : World} {shape : List Nat} (hi : Inv w) (e : w.reserve shape = .ok w') :
    w'.cnt x = w.cnt x :=
  let ⟨_, af⟩ := reserve_cases hi e
  cnt_of_ents_eq hi (reserve_inv hi e) af.res af.ents x

theorem shrink_cnt (x : Val) {w : World} (hi : Inv w) : w.shrinkToFit.cnt x = w.cnt x :=
  cnt_of_ents_eq hi (shrink_inv hi) rfl (ents_shrink w) x

end Brood
