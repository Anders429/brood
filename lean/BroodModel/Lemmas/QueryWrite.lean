/-
  Writes through the mutable views of a whole query (`World.queryWrite`): every matching entity's
  viewed-mutably components are replaced (here: by fresh copies `cloneVal e`), nothing else
  changes, the invariant is preserved — "writes made through mutable views are seen by later
  reads of that entity only" (`C03_query_write`).  Here: what the write does to one table
  (`writeFold_eq`, `writeG_spec`) and to the world's tables (`queryWrite_world`).
-/
import BroodModel.Lemmas.QueryL

namespace Brood
open Serde (ArchShape)

theorem cloneVal_idem (e : Nat) (v : Val) : cloneVal e (cloneVal e v) = cloneVal e v := by
  unfold cloneVal
  rw [Nat.add_mul_mod_self_right, Nat.mod_mod]

/-- What a write to the components `cs` makes of a value. -/
def remade (e : Nat) (cs : List Nat) (v : Val) : Val := if cs.contains v.ty then cloneVal e v else v

theorem remade_ty (e : Nat) (cs : List Nat) (v : Val) : (remade e cs v).ty = v.ty := by
  unfold remade
  split
  · exact cloneVal_ty e v
  · rfl

theorem remade_cons (e c : Nat) (cs : List Nat) (v : Val) :
    remade e (c :: cs) v = remade e cs (remade e [c] v) := by
  unfold remade
  by_cases h : v.ty = c
  · simp [h, cloneVal_idem]
  · simp [h]

/-! ### the write loop of one table -/

/-- One column re-made is every cell re-made: the other columns hold other components. -/
theorem writeStep_eq {n : Nat} {a : Arch} (s : ArchShape n a) (e : Nat) {c : Nat} (hc : a.mask.has c = true)
    (d : List Val) : (writeStep e (a, d) c).1 = a.mapVals (remade e [c]) a.handle := by
  have hk : colIndex a.mask c < a.cols.length := s.cols_len ▸ colIndex_lt_count hc
  obtain ⟨col, hcol⟩ : ∃ col, a.cols[colIndex a.mask c]? = some col := ⟨_, List.getElem?_eq_getElem hk⟩
  simp only [writeStep, hcol]
  show ({ a with cols := _ } : Arch) = { a with cols := _ }
  congr 1
  refine List.ext_getElem? fun j => ?_
  rw [List.getElem?_map]
  by_cases hjk : colIndex a.mask c = j
  · subst hjk
    obtain ⟨-, htys⟩ := s.cols_ok _ col c hcol (colIndex_comps hc)
    rw [List.getElem?_set_self hk, hcol, Option.map_some]
    exact congrArg some (List.map_congr_left fun v hv => by simp [remade, htys v hv])
  rw [List.getElem?_set_ne hjk]
  cases hj : a.cols[j]? with
  | none => rfl
  | some cj =>
    have hjl : j < a.mask.comps.length := s.comps_len ▸ (List.getElem?_eq_some_iff.mp hj).1
    have htys := (s.cols_ok j cj _ hj (List.getElem?_eq_getElem hjl)).2
    have hne : a.mask.comps[j] ≠ c := fun e => hjk ((List.getElem?_inj hjl (comps_nodup a.mask)).mp
      (by rw [colIndex_comps hc, List.getElem?_eq_getElem hjl, e])).symm
    exact congrArg some ((List.map_congr_left fun v hv => by simp [remade, htys v hv, hne]).trans
      (List.map_id _)).symm

theorem writeFold_eq {n : Nat} (e : Nat) (cs : List Nat) {a : Arch} (d : List Val) (s : ArchShape n a)
    (hc : ∀ c ∈ cs, a.mask.has c = true) :
    (cs.foldl (writeStep e) (a, d)).1 = a.mapVals (remade e cs) a.handle := by
  induction cs generalizing a d with
  | nil => simp [Arch.mapVals, show remade e [] = id from rfl]
  | cons c cs ih =>
    have h1 := writeStep_eq s e (hc c List.mem_cons_self) d
    rw [List.foldl_cons, show writeStep e (a, d) c = ((writeStep e (a, d) c).1, (writeStep e (a, d) c).2) from rfl,
      h1, ih _ (s.mapVals (remade_ty e [c]) _) fun x hx => hc x (List.mem_cons_of_mem _ hx),
      Arch.mapVals_mapVals]
    exact congrArg (Arch.mapVals · a.handle a) (funext fun v => (remade_cons e c cs v).symm)

/-! ### the whole world -/

/-- What `queryWrite` does to one table. -/
def writeG (e : Nat) (vs : List View) (f : Filter) (a : Arch) : Arch :=
  if viewsFilter a.mask vs && f.eval a.mask then
    a.mapVals (remade e (((vs.filter View.isMut).filterMap View.comp?).filter a.mask.has)) a.handle
  else a

theorem queryWrite_world {w : World} (hi : Inv w) (vs : List View) (f : Filter) (e : Nat) :
    (w.queryWrite vs f e).1 = { w with archs := w.archs.map (writeG e vs f) } := by
  have : ∀ (l : List Arch) (acc : List Arch × List Val), (∀ a ∈ l, ArchShape w.n a) →
      (l.foldl (writeOne e vs f) acc).1 = acc.1 ++ l.map (writeG e vs f) := by
    intro l
    induction l with
    | nil => simp
    | cons a as ih =>
      intro acc hs
      rw [List.foldl_cons, ih _ fun b hb => hs b (List.mem_cons_of_mem _ hb), List.map_cons, writeOne, writeG,
        ← writeFold_eq e _ [] (hs a List.mem_cons_self) fun c hc => (List.mem_filter.mp hc).2]
      split <;> simp [writeArch]
  simp [World.queryWrite, this w.archs ([], []) fun a ha => (hi.archOk ha).shape]

theorem writeG_frame (e : Nat) (vs : List View) (f : Filter) (a : Arch) :
    (writeG e vs f a).handle = a.handle ∧ (writeG e vs f a).mask = a.mask ∧ (writeG e vs f a).ids = a.ids := by
  unfold writeG
  split <;> exact ⟨rfl, rfl, rfl⟩

theorem writeG_spec {n : Nat} {a : Arch} (ok : ArchShape n a) (e : Nat) (vs : List View) (f : Filter) :
    ArchShape n (writeG e vs f a) ∧ ∀ j < a.ids.length, (writeG e vs f a).row j =
      if specMatches vs f (Spec.maskOf n (a.row j)) then
        (a.row j).map (remade e ((vs.filter View.isMut).filterMap View.comp?))
      else a.row j := by
  unfold writeG
  cases hm : (viewsFilter a.mask vs && f.eval a.mask) with
  | false =>
    refine ⟨ok, fun j hj => ?_⟩
    rw [maskOf_row ok hj, specMatches_eq, hm]
    rfl
  | true =>
    refine ⟨ok.mapVals (remade_ty e _) _, fun j hj => ?_⟩
    rw [maskOf_row ok hj, specMatches_eq, hm, if_pos rfl, if_pos rfl, Arch.row_mapVals]
    refine List.map_congr_left fun v hv => ?_
    -- a value of the row has a component of the table
    have hv : a.mask.has v.ty = true := mem_comps.mp (ok.row_tys hj ▸ List.mem_map_of_mem hv)
    have : (((vs.filter View.isMut).filterMap View.comp?).filter a.mask.has).contains v.ty =
        ((vs.filter View.isMut).filterMap View.comp?).contains v.ty := by
      rw [Bool.eq_iff_iff]; simp [List.mem_filter, hv]
    rw [remade, remade, this]

end Brood
