/-
  Byte packing of archetype identifiers: `unpack ∘ pack = id`, and the padding bits of a packed
  mask are zero (the check of `archetype/identifier/impl_serde.rs` accepts what `pack` produces).
  Everything is read off bit by bit (`Nat.testBit`): bit `i` of `bitsToNat l` is `l[i]`, byte `k`
  of `pack m` is `bitsToNat` of the bits `8 k, …, 8 k + 7` of `m`, for every `k`.
-/
import BroodModel.Basic

namespace Brood

theorem bitsToNat_testBit (l : List Bool) (i : Nat) : (bitsToNat l).testBit i = l.getD i false := by
  induction l generalizing i with
  | nil => simp [bitsToNat]
  | cons b bs ih =>
    rw [bitsToNat]
    cases i with
    | zero => rw [Nat.testBit_zero, Nat.add_mul_mod_self_left]; cases b <;> rfl
    | succ i =>
      have hb : (if b = true then 1 else 0) / 2 = 0 := by cases b <;> rfl
      rw [Nat.testBit_succ, Nat.add_mul_div_left _ _ (by decide), hb, Nat.zero_add, ih]
      rfl

theorem bitsToNat_lt (l : List Bool) : bitsToNat l < 2 ^ l.length :=
  Nat.lt_pow_two_of_testBit _ fun i hi => by
    rw [bitsToNat_testBit, List.getD_eq_getElem?_getD, List.getElem?_eq_none hi]; rfl

theorem bitAt_eq_testBit (bytes : List Nat) (c : Nat) :
    bitAt bytes c = (bytes.getD (c / 8) 0).testBit (c % 8) := by
  rw [bitAt, Nat.testBit_eq_decide_div_mod_eq, Bool.beq_eq_decide_eq]

theorem pack_length (m : Mask) : (Mask.pack m).length = (m.length + 7) / 8 := by
  simp [Mask.pack]

/-- Past the last byte both sides are zero. -/
theorem pack_getD (m : Mask) (k : Nat) :
    (Mask.pack m).getD k 0 = bitsToNat ((m.drop (8 * k)).take 8) := by
  rw [List.getD_eq_getElem?_getD, Mask.pack, List.getElem?_map]
  by_cases hk : k < (m.length + 7) / 8
  · rw [List.getElem?_range hk]; rfl
  · have hm : m.length ≤ 8 * k :=
      Nat.le_of_add_le_add_right ((Nat.div_le_iff_le_mul_add_pred (by decide)).mp (Nat.not_lt.mp hk))
    rw [List.getElem?_eq_none (by simpa using hk), List.drop_eq_nil_of_le hm]; rfl

theorem bitAt_pack (m : Mask) (c : Nat) : bitAt (Mask.pack m) c = m.getD c false := by
  rw [bitAt_eq_testBit, pack_getD, bitsToNat_testBit]
  simp only [List.getD_eq_getElem?_getD, List.getElem?_take, List.getElem?_drop,
    Nat.mod_lt c (by decide : 8 > 0), if_true, Nat.div_add_mod]

theorem unpack_pack (m : Mask) : Mask.unpack m.length (Mask.pack m) = m := by
  refine List.ext_getElem (by simp [Mask.unpack]) fun c _ hc => ?_
  simp [Mask.unpack, bitAt_pack, List.getD_eq_getElem?_getD, List.getElem?_eq_getElem hc]

theorem and_shiftLeft_mod_eq_zero {x k : Nat} (y j : Nat) (h : x < 2 ^ k) :
    x &&& (y <<< k) % 2 ^ j = 0 := by
  apply Nat.eq_of_testBit_eq
  intro i
  rw [Nat.testBit_and, Nat.testBit_mod_two_pow, Nat.testBit_shiftLeft, Nat.zero_testBit]
  by_cases hik : i < k
  · simp [Nat.not_le.mpr hik]
  · rw [Nat.testBit_lt_two_pow (Nat.lt_of_lt_of_le h (Nat.pow_le_pow_right (by decide) (Nat.not_lt.mp hik)))]
    rfl

theorem pack_padding (m : Mask) (hn : m.length % 8 ≠ 0) :
    ((Mask.pack m).getD ((m.length + 7) / 8 - 1) 0) &&& ((255 <<< (m.length % 8)) % 256) = 0 := by
  rw [pack_getD]
  -- the last byte holds the `m.length % 8` bits left over
  refine and_shiftLeft_mod_eq_zero 255 8
    (Nat.lt_of_lt_of_le (bitsToNat_lt _) (Nat.pow_le_pow_right (by decide) ?_))
  rw [List.length_take, List.length_drop]
  exact Nat.le_trans (Nat.min_le_right ..) (by omega)

end Brood
