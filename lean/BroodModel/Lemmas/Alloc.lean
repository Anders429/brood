/-
  Lemmas about `entity::Allocator` (model: BroodModel.Alloc).

  `AInv`    : the free queue has no duplicates and lists exactly the inactive slots.
  `SetSlot` : what `allocate`, `release` and `setLoc` do to the slots — one of them is overwritten;
              the invariant, `get` and the order below are each carried across that once.
  `Le`      : the order along which an allocator moves — generations only grow, and a freed slot
              stays free until its generation is bumped.
  `Ghost`   : every identifier ever issued has a generation ≤ its slot's current generation.
  `Dead`    : a released identifier never resolves again.  Both are monotone in `Le`.
  `allocateBatch_fold` : a batch keeps whatever `allocate` keeps.
-/
import BroodModel.Alloc
import BroodModel.Lemmas.Basic

namespace Brood

theorem Ident.ext {x y : Ident} (hi : x.index = y.index) (hg : x.gen = y.gen) : x = y := by
  cases y
  cases hi
  cases hg
  rfl

namespace Alloc

structure AInv (a : Alloc) : Prop where
  nodup : a.free.Nodup
  inactive : ∀ i ∈ a.free, ∃ s, a.slots[i]? = some s ∧ s.loc = none
  listed : ∀ i s, a.slots[i]? = some s → s.loc = none → i ∈ a.free

theorem AInv.empty : AInv Alloc.empty :=
  ⟨List.nodup_nil, by simp [Alloc.empty], by simp [Alloc.empty]⟩

/-- An identifier is live when its slot is active with the same generation. -/
def Live (a : Alloc) (id : Ident) : Prop := ∃ l, a.get id = some l

theorem get_eq_some {a : Alloc} {id : Ident} {l : Loc} :
    a.get id = some l ↔ ∃ s, a.slots[id.index]? = some s ∧ s.gen = id.gen ∧ s.loc = some l := by
  unfold get
  cases h : a.slots[id.index]? with
  | none => simp
  | some s => by_cases hg : s.gen = id.gen <;> simp [hg]

theorem isActive_iff_get {a : Alloc} {id : Ident} : a.isActive id = true ↔ (a.get id).isSome := by
  unfold isActive get
  cases h : a.slots[id.index]? with
  | none => rfl
  | some s => by_cases hg : s.gen = id.gen <;> simp [hg]

theorem Live.slot {a : Alloc} {id : Ident} (hl : Live a id) :
    ∃ l, a.slots[id.index]? = some ⟨id.gen, some l⟩ := by
  obtain ⟨l, hl⟩ := hl
  obtain ⟨⟨g, o⟩, hs, rfl, rfl⟩ := get_eq_some.mp hl
  exact ⟨l, hs⟩

theorem inUse_iff_live {a : Alloc} {j : Nat} :
    (∃ s, a.slots[j]? = some s ∧ s.loc.isSome = true) ↔ ∃ y, Live a y ∧ y.index = j := by
  constructor
  · rintro ⟨s, hs, hl⟩
    obtain ⟨l, hl⟩ := Option.isSome_iff_exists.mp hl
    exact ⟨⟨j, s.gen⟩, ⟨l, get_eq_some.mpr ⟨s, hs, rfl, hl⟩⟩, rfl⟩
  · rintro ⟨y, ⟨l, hg⟩, rfl⟩
    obtain ⟨s, hs, -, hl⟩ := get_eq_some.mp hg
    exact ⟨s, hs, by rw [hl]; rfl⟩

theorem Live.not_free {a : Alloc} {id : Ident} (h : AInv a) (hl : Live a id) : id.index ∉ a.free := by
  intro hm
  obtain ⟨l, hs⟩ := hl.slot
  obtain ⟨u, hu, hul⟩ := h.inactive _ hm
  rw [hs] at hu
  cases hu
  cases hul

theorem get_eq_none_of_index {a : Alloc} {id x : Ident} {l : Loc} (hl : a.get id = some l)
    (hi : x.index = id.index) (hx : x ≠ id) : a.get x = none := by
  obtain ⟨s, hs, hg, -⟩ := get_eq_some.mp hl
  have : s.gen ≠ x.gen := fun h => hx (Ident.ext hi (h.symm.trans hg))
  simp [get, hi, hs, this]

theorem allocate_ok {a : Alloc} (h : AInv a) (loc : Loc) :
    ∃ a' id, a.allocate loc = .ok (a', id) := by
  unfold allocate
  cases hf : a.free with
  | nil => exact ⟨_, _, rfl⟩
  | cons i rest =>
    obtain ⟨s, hs, -⟩ := h.inactive i (by simp [hf])
    simp [hs]

theorem allocate_eq_ok {a a' : Alloc} {loc : Loc} {id : Ident}
    (e : a.allocate loc = .ok (a', id)) :
    (a.free = [] ∧ a' = ⟨a.slots ++ [⟨0, some loc⟩], []⟩ ∧ id = ⟨a.slots.length, 0⟩) ∨
    (∃ i rest s, a.free = i :: rest ∧ a.slots[i]? = some s ∧
      a' = ⟨a.slots.set i ⟨s.gen + 1, some loc⟩, rest⟩ ∧ id = ⟨i, s.gen + 1⟩) := by
  unfold allocate at e
  split at e
  next i rest hf =>
    split at e
    next s hs =>
      cases e
      exact .inr ⟨i, rest, s, hf, hs, rfl, rfl⟩
    next => cases e
  next hf =>
    cases e
    exact .inl ⟨hf, rfl, rfl⟩

theorem release_ok {a : Alloc} {id : Ident} (hl : Live a id) : ∃ a', a.release id = .ok a' := by
  obtain ⟨l, hs⟩ := hl.slot
  simp [release, hs]

theorem release_eq_ok {a a' : Alloc} {id : Ident} (e : a.release id = .ok a') :
    ∃ s, a.slots[id.index]? = some s ∧
      a' = ⟨a.slots.set id.index ⟨s.gen, none⟩, a.free ++ [id.index]⟩ := by
  unfold release at e
  split at e
  next s hs =>
    cases e
    exact ⟨s, hs, rfl⟩
  next => cases e

theorem setLoc_ok {a : Alloc} {id : Ident} (hl : Live a id) (loc : Loc) :
    ∃ a', a.setLoc id loc = .ok a' := by
  obtain ⟨l, hs⟩ := hl.slot
  simp [setLoc, hs]

theorem setLoc_eq_ok {a a' : Alloc} {id : Ident} {loc : Loc} (e : a.setLoc id loc = .ok a') :
    ∃ s, a.slots[id.index]? = some s ∧ a' = ⟨a.slots.set id.index ⟨s.gen, some loc⟩, a.free⟩ := by
  unfold setLoc at e
  split at e
  next s hs =>
    cases e
    exact ⟨s, hs, rfl⟩
  next => cases e

theorem setLoc_self {a : Alloc} {id : Ident} {l : Loc} (hl : a.get id = some l) : a.setLoc id l = .ok a := by
  obtain ⟨⟨g, ol⟩, hs, -, rfl⟩ := get_eq_some.mp hl
  obtain ⟨hi, e⟩ := List.getElem?_eq_some_iff.mp hs
  simp only [setLoc, hs]
  rw [← e, List.set_getElem_self]

/-- `modify_location_index_unchecked` is `modify_location_unchecked` with the old table. -/
theorem setRow_eq_setLoc {a : Alloc} {id : Ident} {l : Loc} (hl : a.get id = some l) (r : Nat) :
    a.setRow id r = a.setLoc id ⟨l.arch, r⟩ := by
  obtain ⟨s, hs, -, hsl⟩ := get_eq_some.mp hl
  simp [setRow, setLoc, hs, hsl]

/-- `a'.slots` is `a.slots` with `s'` at index `i`, as seen by lookups: the in-place writes of
`release`, `setLoc` and a reusing `allocate`, and the append of a fresh `allocate`
(`i = a.slots.length`). -/
def SetSlot (a a' : Alloc) (i : Nat) (s' : Slot) : Prop :=
  ∀ j, a'.slots[j]? = if j = i then some s' else a.slots[j]?

theorem SetSlot.set {a : Alloc} {i : Nat} {s : Slot} (hs : a.slots[i]? = some s) (s' : Slot)
    (free : List Nat) : SetSlot a ⟨a.slots.set i s', free⟩ i s' := by
  intro j
  by_cases hj : j = i
  · rw [hj, if_pos rfl]
    exact List.getElem?_set_self (List.getElem?_eq_some_iff.mp hs).1
  · rw [if_neg hj]
    exact List.getElem?_set_ne (Ne.symm hj)

theorem SetSlot.push (a : Alloc) (s' : Slot) (free : List Nat) :
    SetSlot a ⟨a.slots ++ [s'], free⟩ a.slots.length s' :=
  getElem?_append_singleton a.slots s'

theorem SetSlot.self {a a' : Alloc} {i : Nat} {s' : Slot} (p : SetSlot a a' i s') :
    a'.slots[i]? = some s' := by
  rw [p i, if_pos rfl]

theorem SetSlot.ne {a a' : Alloc} {i j : Nat} {s' : Slot} (p : SetSlot a a' i s') (h : j ≠ i) :
    a'.slots[j]? = a.slots[j]? := by
  rw [p j, if_neg h]

theorem SetSlot.get {a a' : Alloc} {i : Nat} {s' : Slot} (p : SetSlot a a' i s') (x : Ident) :
    a'.get x = if x.index = i then (if s'.gen = x.gen then s'.loc else none) else a.get x := by
  unfold Alloc.get
  by_cases hx : x.index = i
  · rw [hx, p.self, if_pos rfl]
  · rw [p.ne hx, if_neg hx]

theorem SetSlot.get_ident {a a' : Alloc} {id : Ident} {ol : Option Loc}
    (p : SetSlot a a' id.index ⟨id.gen, ol⟩)
    (hothers : ∀ x : Ident, x.index = id.index → x ≠ id → a.get x = none) (x : Ident) :
    a'.get x = if x = id then ol else a.get x := by
  rw [p.get x]
  by_cases hx : x = id
  · rw [hx, if_pos rfl, if_pos rfl, if_pos rfl]
  · by_cases hi : x.index = id.index
    · have : id.gen ≠ x.gen := fun hg => hx (Ident.ext hi hg.symm)
      rw [if_neg hx, if_pos hi, if_neg this, hothers x hi hx]
    · rw [if_neg hx, if_neg hi]

theorem SetSlot.inv {a a' : Alloc} {i : Nat} {s' : Slot} (p : SetSlot a a' i s') (h : AInv a)
    (nd : a'.free.Nodup) (other : ∀ j, j ≠ i → (j ∈ a'.free ↔ j ∈ a.free))
    (self : i ∈ a'.free ↔ s'.loc = none) : AInv a' := by
  refine ⟨nd, fun j hj => ?_, fun j t hj ht => ?_⟩
  · by_cases hji : j = i
    · exact ⟨s', hji ▸ p.self, self.mp (hji ▸ hj)⟩
    · rw [p.ne hji]
      exact h.inactive j ((other j hji).mp hj)
  · by_cases hji : j = i
    · rw [hji, p.self] at hj
      cases hj
      exact hji ▸ self.mpr ht
    · rw [p.ne hji] at hj
      exact (other j hji).mpr (h.listed j t hj ht)

theorem allocate_setSlot {a a' : Alloc} {loc : Loc} {id : Ident}
    (e : a.allocate loc = .ok (a', id)) :
    SetSlot a a' id.index ⟨id.gen, some loc⟩ ∧
      ((a.slots[id.index]? = none ∧ id.gen = 0 ∧ a.free = [] ∧ a'.free = []) ∨
       (∃ s, a.slots[id.index]? = some s ∧ id.gen = s.gen + 1 ∧ a.free = id.index :: a'.free)) := by
  rcases allocate_eq_ok e with ⟨hf, rfl, rfl⟩ | ⟨i, rest, s, hf, hs, rfl, rfl⟩
  · exact ⟨.push _ _ _, .inl ⟨by simp, rfl, hf, rfl⟩⟩
  · exact ⟨.set hs _ _, .inr ⟨s, hs, rfl, hf⟩⟩

theorem release_setSlot {a a' : Alloc} {id : Ident} {s : Slot} (hs : a.slots[id.index]? = some s)
    (e : a.release id = .ok a') :
    SetSlot a a' id.index ⟨s.gen, none⟩ ∧ a'.free = a.free ++ [id.index] := by
  obtain ⟨s', hs', rfl⟩ := release_eq_ok e
  cases hs.symm.trans hs'
  exact ⟨.set hs _ _, rfl⟩

theorem setLoc_setSlot {a a' : Alloc} {id : Ident} {loc : Loc} {s : Slot}
    (hs : a.slots[id.index]? = some s) (e : a.setLoc id loc = .ok a') :
    SetSlot a a' id.index ⟨s.gen, some loc⟩ ∧ a'.free = a.free := by
  obtain ⟨s', hs', rfl⟩ := setLoc_eq_ok e
  cases hs.symm.trans hs'
  exact ⟨.set hs _ _, rfl⟩

theorem allocate_inv {a a' : Alloc} {loc : Loc} {id : Ident} (h : AInv a)
    (e : a.allocate loc = .ok (a', id)) : AInv a' := by
  obtain ⟨p, ⟨-, -, hf, hf'⟩ | ⟨s, -, -, hf⟩⟩ := allocate_setSlot e
  · exact p.inv h (by simp [hf']) (by simp [hf, hf']) (by simp [hf'])
  · have nd := h.nodup
    rw [hf, List.nodup_cons] at nd
    exact p.inv h nd.2 (fun j hj => by simp [hf, hj]) (by simp [nd.1])

theorem release_inv {a a' : Alloc} {id : Ident} (h : AInv a) (hl : Live a id)
    (e : a.release id = .ok a') : AInv a' := by
  obtain ⟨l, hs⟩ := hl.slot
  obtain ⟨p, hf⟩ := release_setSlot hs e
  exact p.inv h (hf ▸ nodup_append_singleton h.nodup (hl.not_free h)) (fun j hj => by simp [hf, hj])
    (by simp [hf])

theorem setLoc_inv {a a' : Alloc} {id : Ident} {loc : Loc} (h : AInv a) (hl : Live a id)
    (e : a.setLoc id loc = .ok a') : AInv a' := by
  obtain ⟨l, hs⟩ := hl.slot
  obtain ⟨p, hf⟩ := setLoc_setSlot hs e
  exact p.inv h (hf ▸ h.nodup) (fun j _ => by rw [hf]) (by simp [hf, hl.not_free h])

theorem get_allocate {a a' : Alloc} {loc : Loc} {id : Ident} (h : AInv a)
    (e : a.allocate loc = .ok (a', id)) :
    a.get id = none ∧ ∀ x, a'.get x = if x = id then some loc else a.get x := by
  obtain ⟨p, hold⟩ := allocate_setSlot e
  -- the slot handed out was absent, or free and hence inactive
  have hnone : ∀ x : Ident, x.index = id.index → a.get x = none := by
    intro x hx
    rcases hold with ⟨hn, -⟩ | ⟨-, -, -, hf⟩
    · simp [get, hx, hn]
    · obtain ⟨s, hs, hsl⟩ := h.inactive id.index (by simp [hf])
      simp [get, hx, hs, hsl]
  exact ⟨hnone id rfl, p.get_ident fun x hx _ => hnone x hx⟩

theorem get_release {a a' : Alloc} {id : Ident} (hl : Live a id) (e : a.release id = .ok a')
    (x : Ident) : a'.get x = if x = id then none else a.get x := by
  obtain ⟨l, hs⟩ := hl.slot
  obtain ⟨l', hg⟩ := hl
  exact (release_setSlot hs e).1.get_ident (fun x => get_eq_none_of_index hg) x

theorem get_setLoc {a a' : Alloc} {id : Ident} {loc : Loc} (hl : Live a id)
    (e : a.setLoc id loc = .ok a') (x : Ident) : a'.get x = if x = id then some loc else a.get x := by
  obtain ⟨l, hs⟩ := hl.slot
  obtain ⟨l', hg⟩ := hl
  exact (setLoc_setSlot hs e).1.get_ident (fun x => get_eq_none_of_index hg) x

theorem allocate_live {a a' : Alloc} {loc : Loc} {id x : Ident} (h : AInv a)
    (e : a.allocate loc = .ok (a', id)) (hx : Live a x) : Live a' x := by
  obtain ⟨hnew, hget⟩ := get_allocate h e
  obtain ⟨l, hx⟩ := hx
  refine ⟨l, ?_⟩
  rw [hget, if_neg, hx]
  intro hxi
  rw [hxi, hnew] at hx
  cases hx

theorem release_live {a a' : Alloc} {id x : Ident} (hl : Live a id) (e : a.release id = .ok a')
    (hx : Live a x) (hne : x ≠ id) : Live a' x := by
  unfold Live
  rw [get_release hl e, if_neg hne]
  exact hx

theorem setLoc_live {a a' : Alloc} {id x : Ident} {loc : Loc} (hl : Live a id)
    (e : a.setLoc id loc = .ok a') (hx : Live a x) : Live a' x := by
  unfold Live
  rw [get_setLoc hl e]
  split
  · exact ⟨loc, rfl⟩
  · exact hx

theorem release_dead {a a' : Alloc} {id : Ident} (e : a.release id = .ok a') :
    a'.get id = none := by
  obtain ⟨s, hs, -⟩ := release_eq_ok e
  simp [(release_setSlot hs e).1.get]

/-- A stale identifier stays unresolved across `setLoc` (the generation is untouched). -/
theorem setLoc_dead {a a' : Alloc} {id : Ident} {loc : Loc}
    (e : a.setLoc id loc = .ok a') {id' : Ident} (hne : ¬ Live a id') (hlive : Live a id) :
    ¬ Live a' id' := by
  rintro ⟨l, hl⟩
  rw [get_setLoc hlive e] at hl
  by_cases hx : id' = id
  · exact hne (hx ▸ hlive)
  · rw [if_neg hx] at hl
    exact hne ⟨l, hl⟩

def Le (a a' : Alloc) : Prop :=
  ∀ (i : Nat) (s : Slot), a.slots[i]? = some s → ∃ s', a'.slots[i]? = some s' ∧
    s.gen ≤ s'.gen ∧ (s.gen = s'.gen → s.loc = none → s'.loc = none)

theorem Le.refl (a : Alloc) : Le a a := fun _ s hs => ⟨s, hs, Nat.le_refl _, fun _ h => h⟩

theorem Le.trans {a b c : Alloc} (f : Le a b) (g : Le b c) : Le a c := by
  intro i s hs
  obtain ⟨t, ht, h1, k1⟩ := f i s hs
  obtain ⟨u, hu, h2, k2⟩ := g i t ht
  have hst : s.gen = u.gen → s.gen = t.gen ∧ t.gen = u.gen := by omega
  exact ⟨u, hu, Nat.le_trans h1 h2, fun e h => k2 (hst e).2 (k1 (hst e).1 h)⟩

theorem SetSlot.le {a a' : Alloc} {i g : Nat} {ol : Option Loc} (p : SetSlot a a' i ⟨g, ol⟩)
    (h : ∀ s, a.slots[i]? = some s → s.gen ≤ g ∧ (s.gen = g → s.loc = none → ol = none)) :
    Le a a' := by
  intro j s hs
  by_cases hj : j = i
  · exact ⟨_, hj ▸ p.self, h s (hj ▸ hs)⟩
  · exact ⟨s, (p.ne hj).trans hs, Nat.le_refl _, fun _ h => h⟩

theorem allocate_le {a a' : Alloc} {loc : Loc} {id : Ident} (e : a.allocate loc = .ok (a', id)) :
    Le a a' := by
  obtain ⟨p, ⟨hn, -⟩ | ⟨s, hs, hg, -⟩⟩ := allocate_setSlot e
  · exact p.le fun t ht => nomatch hn.symm.trans ht
  · exact p.le fun t ht => by
      rw [hs] at ht
      cases ht
      omega

theorem release_le {a a' : Alloc} {id : Ident} (e : a.release id = .ok a') : Le a a' := by
  obtain ⟨s, hs, -⟩ := release_eq_ok e
  exact (release_setSlot hs e).1.le fun t ht => by
    rw [hs] at ht
    cases ht
    exact ⟨Nat.le_refl _, fun _ _ => rfl⟩

/-- Re-pointing a slot that is in use: nothing inactive is revived. -/
theorem setLoc_le {a a' : Alloc} {id : Ident} {loc : Loc} (hl : Live a id)
    (e : a.setLoc id loc = .ok a') : Le a a' := by
  obtain ⟨l, hs⟩ := hl.slot
  exact (setLoc_setSlot hs e).1.le fun t ht => by
    rw [hs] at ht
    cases ht
    exact ⟨Nat.le_refl _, fun _ h => nomatch h⟩

def Ghost (a : Alloc) (issued : List Ident) : Prop :=
  ∀ id ∈ issued, ∃ s, a.slots[id.index]? = some s ∧ id.gen ≤ s.gen

theorem Ghost.nil (a : Alloc) : Ghost a [] := by simp [Ghost]

theorem Ghost.mono {a a' : Alloc} {issued : List Ident} (g : Ghost a issued) (f : Le a a') :
    Ghost a' issued := by
  intro x hx
  obtain ⟨s, hs, hle⟩ := g x hx
  obtain ⟨s', hs', h, -⟩ := f _ s hs
  exact ⟨s', hs', Nat.le_trans hle h⟩

theorem allocate_fresh {a a' : Alloc} {loc : Loc} {id : Ident} {issued : List Ident}
    (g : Ghost a issued) (e : a.allocate loc = .ok (a', id)) : id ∉ issued := by
  intro hmem
  obtain ⟨s, hs, hle⟩ := g id hmem
  obtain ⟨-, ⟨hn, -⟩ | ⟨t, ht, hg, -⟩⟩ := allocate_setSlot e
  · rw [hn] at hs
    cases hs
  · rw [ht] at hs
    cases hs
    rw [hg] at hle
    exact Nat.not_succ_le_self _ hle

theorem allocate_ghost {a a' : Alloc} {loc : Loc} {id : Ident} {issued : List Ident}
    (g : Ghost a issued) (e : a.allocate loc = .ok (a', id)) : Ghost a' (id :: issued) := by
  intro x hx
  rcases List.mem_cons.mp hx with rfl | hx
  · exact ⟨_, (allocate_setSlot e).1.self, Nat.le_refl _⟩
  · exact g.mono (allocate_le e) x hx

def Dead (a : Alloc) (id : Ident) : Prop :=
  ∃ s, a.slots[id.index]? = some s ∧ (id.gen < s.gen ∨ (id.gen = s.gen ∧ s.loc = none))

theorem Dead.not_live {a : Alloc} {id : Ident} (d : Dead a id) : a.get id = none := by
  obtain ⟨s, hs, h⟩ := d
  simp only [get, hs]
  rcases h with h | ⟨h1, h2⟩
  · exact if_neg (by omega)
  · rw [if_pos h1.symm, h2]

theorem Dead.not_active {a : Alloc} {id : Ident} (d : Dead a id) : a.isActive id = false := by
  simpa [d.not_live] using isActive_iff_get (a := a) (id := id)

theorem Dead.mono {a a' : Alloc} {x : Ident} (d : Dead a x) (f : Le a a') : Dead a' x := by
  obtain ⟨s, hs, h⟩ := d
  obtain ⟨s', hs', hle, k⟩ := f _ s hs
  refine ⟨s', hs', ?_⟩
  rcases h with h | ⟨h, hn⟩
  · exact .inl (Nat.lt_of_lt_of_le h hle)
  · rcases Nat.lt_or_eq_of_le hle with hlt | e
    · exact .inl (h ▸ hlt)
    · exact .inr ⟨h.trans e, k e hn⟩

theorem release_makes_dead {a a' : Alloc} {id : Ident} (hl : Live a id)
    (e : a.release id = .ok a') : Dead a' id := by
  obtain ⟨l, hs⟩ := hl.slot
  exact ⟨_, (release_setSlot hs e).1.self, .inr ⟨rfl, rfl⟩⟩

theorem allocateBatch_succ_eq_ok {a a' : Alloc} {h start n : Nat} {ids : List Ident}
    (e : a.allocateBatch h start (n + 1) = .ok (a', ids)) :
    ∃ a1 id ids', a.allocate ⟨h, start⟩ = .ok (a1, id) ∧
      a1.allocateBatch h (start + 1) n = .ok (a', ids') ∧ ids = id :: ids' := by
  unfold allocateBatch at e
  split at e
  next => cases e
  next a1 id h1 =>
    split at e
    next => cases e
    next a2 ids' h2 =>
      cases e
      exact ⟨a1, id, ids', h1, h2, rfl⟩

/-- Whatever `allocate` maintains of the allocator and the identifiers issued so far (newest
first), a batch maintains. -/
theorem allocateBatch_fold {Q : Alloc → List Ident → Prop}
    (hQ : ∀ {a a' : Alloc} {loc : Loc} {id : Ident} {iss : List Ident},
      Q a iss → a.allocate loc = .ok (a', id) → Q a' (id :: iss)) {h : Nat} :
    ∀ (n : Nat) {a a' : Alloc} {start : Nat} {ids iss : List Ident}, Q a iss →
      a.allocateBatch h start n = .ok (a', ids) → Q a' (ids.reverse ++ iss) ∧ ids.length = n := by
  intro n
  induction n with
  | zero =>
    intro a a' start ids iss q e
    cases e
    exact ⟨q, rfl⟩
  | succ n ih =>
    intro a a' start ids iss q e
    obtain ⟨a1, id, ids', h1, h2, rfl⟩ := allocateBatch_succ_eq_ok e
    obtain ⟨q', hl⟩ := ih (hQ q h1) h2
    rw [List.reverse_cons, List.append_assoc]
    exact ⟨q', congrArg (· + 1) hl⟩

theorem allocateBatch_length {a a' : Alloc} {h start n : Nat} {ids : List Ident}
    (e : a.allocateBatch h start n = .ok (a', ids)) : ids.length = n :=
  (allocateBatch_fold (Q := fun _ _ => True) (iss := []) (fun _ _ => trivial) n trivial e).2

theorem allocateBatch_inv {a a' : Alloc} {h start n : Nat} {ids : List Ident} (hi : AInv a)
    (e : a.allocateBatch h start n = .ok (a', ids)) : AInv a' :=
  (allocateBatch_fold (Q := fun a _ => AInv a) (iss := []) allocate_inv n hi e).1

theorem allocateBatch_pres {P : Alloc → Prop}
    (hP : ∀ {a a' : Alloc} {loc : Loc} {id : Ident}, AInv a → P a → a.allocate loc = .ok (a', id) → P a')
    {a a' : Alloc} {h start n : Nat} {ids : List Ident} (hi : AInv a) (pa : P a)
    (e : a.allocateBatch h start n = .ok (a', ids)) : P a' :=
  (allocateBatch_fold (Q := fun a _ => AInv a ∧ P a) (iss := [])
    (fun q e => ⟨allocate_inv q.1 e, hP q.1 q.2 e⟩) n ⟨hi, pa⟩ e).1.2

theorem allocateBatch_ok {a : Alloc} (hi : AInv a) (h start n : Nat) :
    ∃ a' ids, a.allocateBatch h start n = .ok (a', ids) := by
  induction n generalizing a start with
  | zero => exact ⟨a, [], rfl⟩
  | succ n ih =>
    obtain ⟨a1, id, h1⟩ := allocate_ok hi ⟨h, start⟩
    obtain ⟨a2, ids, h2⟩ := ih (allocate_inv hi h1) (start + 1)
    exact ⟨a2, id :: ids, by simp [allocateBatch, h1, h2]⟩

end Alloc
end Brood
