/-
  `World::clone_from`: one iteration of the per-source-table loop finds or creates the destination's
  table for the source table's component set, exactly as `Archetypes::get_mut_or_insert_new` does,
  and overwrites it with the copy (`cfStep_eq`).  The loop keeps the destination's tables
  well-formed and records, for every source table processed, the destination table that now holds
  its rows (`CFOk`), and on the way nothing the destination owned is lost: a value is either still
  in a table not written so far or among the drops (`cfLoop`).  The finished destination is a copy
  of the source under the recorded handle map (`Copy`), so it satisfies the invariant and denotes
  the source's map, values copied (`cloneFrom_copy`, `cloneFrom_inv`, `cloneFrom_ok`); and
  `clone_from` drops exactly what the destination owned, each value once (`cloneFrom_drops`).
-/
import BroodModel.Lemmas.Clone
import BroodModel.Lemmas.Ledger
import BroodModel.Lemmas.Sweep

namespace Brood
open Alloc Serde

/-- Loop invariant of `Archetypes::clone_from` after the source tables `proc` have been handled. -/
structure CFOk (n e : Nat) (proc : List Arch) (st : World.CF) : Prop where
  handles_nodup : (st.d.archs.map (·.handle)).Nodup
  masks_nodup : (st.d.archs.map (·.mask)).Nodup
  shape : ∀ a ∈ st.d.archs, ArchShape n a ∧ a.handle < st.d.next ∧ (a.mask, a.handle) ∈ st.d.foreign
  foreign : ∀ p ∈ st.d.foreign, lookupOk st.d p = true
  typeIds : ∀ p ∈ st.d.typeIds, lookupOk st.d p = true
  plen : st.pairs.length = proc.length
  pairs : ∀ (j : Nat) (sa : Arch), proc[j]? = some sa →
    ∃ t T, st.pairs[j]? = some (sa.handle, t) ∧ st.d.findArch t = some T ∧ T.mask = sa.mask ∧
      T.ids = sa.ids ∧ T.cols = sa.cols.map (fun c => c.map (cloneVal e))
  written_sum :
    (st.d.archs.map (fun a => if (st.pairs.map (·.2)).contains a.handle then a.ids.length else 0)).sum =
      (proc.map (·.ids.length)).sum

variable {n e : Nat} {proc : List Arch} {st : World.CF} {sa : Arch}

theorem CFOk.pair (H : CFOk n e proc st) {j : Nat} {sa : Arch} (hj : proc[j]? = some sa) :
    ∃ t, st.pairs[j]? = some (sa.handle, t) ∧ st.d.findArch t = some (sa.mapVals (cloneVal e) t) := by
  obtain ⟨t, T, h1, h2, h3, h4, h5⟩ := H.pairs j sa hj
  exact ⟨t, h1, by rw [h2, mapVals_of_fields h3 h4 h5, (findArch_some h2).2]⟩

theorem CFOk.of_written (H : CFOk n e proc st) {t : Nat} (ht : t ∈ st.pairs.map (·.2)) :
    ∃ sa ∈ proc, (sa.handle, t) ∈ st.pairs ∧ st.d.findArch t = some (sa.mapVals (cloneVal e) t) := by
  obtain ⟨⟨k, t⟩, hp, rfl⟩ := List.mem_map.mp ht
  obtain ⟨j, hj⟩ := List.getElem?_of_mem hp
  have hjl : j < proc.length := H.plen ▸ (List.getElem?_eq_some_iff.mp hj).1
  obtain ⟨t', h1, h2⟩ := H.pair (List.getElem?_eq_getElem hjl)
  rw [hj] at h1
  cases h1
  exact ⟨_, List.getElem_mem hjl, hp, h2⟩

theorem CFOk.tables (H : CFOk st.d.n e proc st) (ht : (st.d.typeIds.map (·.1)).Nodup) : Tables st.d :=
  ⟨H.shape, H.masks_nodup, H.handles_nodup, H.typeIds, ht, H.foreign⟩

theorem CFOk.init {d : World} (hi : Inv d) (e : Nat) : CFOk d.n e [] ⟨d, [], []⟩ := by
  refine ⟨hi.handles_nodup, hi.masks_nodup, hi.tables.shape, hi.foreign, hi.typeIds, rfl, by simp, ?_⟩
  exact sum_map_eq_zero fun _ _ => rfl

/-! ### sums over written and unwritten tables -/

/-- `φ` summed over the tables whose handle is in `wr`, `ψ` over the others.  The loop carries two
such sums: the rows written so far (`CFOk.written_sum`) and the values not yet dropped
(`unwrittenCnt`). -/
def wsum (wr : List Nat) (φ ψ : Arch → Nat) (l : List Arch) : Nat :=
  (l.map fun a => if wr.contains a.handle then φ a else ψ a).sum

theorem wsum_cons (wr : List Nat) (φ ψ : Arch → Nat) (a : Arch) (l : List Arch) :
    wsum wr φ ψ (a :: l) = (if wr.contains a.handle then φ a else ψ a) + wsum wr φ ψ l := rfl

theorem wsum_append (wr : List Nat) (φ ψ : Arch → Nat) (l1 l2 : List Arch) :
    wsum wr φ ψ (l1 ++ l2) = wsum wr φ ψ l1 + wsum wr φ ψ l2 := by
  simp [wsum]

theorem wsum_snoc_of_ne {wr : List Nat} {t : Nat} (φ ψ : Arch → Nat) {l : List Arch}
    (h : ∀ a ∈ l, a.handle ≠ t) : wsum (wr ++ [t]) φ ψ l = wsum wr φ ψ l := by
  unfold wsum
  exact congrArg List.sum (List.map_congr_left fun a ha => by simp [h a ha])

theorem wsum_replace {wr : List Nat} (φ ψ : Arch → Nat) {l : List Arch} {a a' : Arch}
    (hn : (l.map (·.handle)).Nodup) (ha : a ∈ l) (hh : a'.handle = a.handle) (hnw : a.handle ∉ wr) :
    wsum (wr ++ [a.handle]) φ ψ (replaceH l a') + ψ a = wsum wr φ ψ l + φ a' := by
  obtain ⟨l1, l2, rfl, hne, h⟩ := replaceH_split hn ha hh
  rw [h, wsum_append, wsum_append, wsum_cons, wsum_cons,
    wsum_snoc_of_ne φ ψ fun b hb => hne b (List.mem_append_left _ hb),
    wsum_snoc_of_ne φ ψ fun b hb => hne b (List.mem_append_right _ hb),
    if_pos (by simp [hh]), if_neg (by simpa using hnw)]
  omega

/-! ### one iteration -/

theorem cfStep_eq (H : CFOk st.d.n e proc st) (ht : (st.d.typeIds.map (·.1)).Nodup)
    (hm : sa.mask.length = st.d.n) (hmask : ∀ p ∈ proc, p.mask ≠ sa.mask) :
    ∃ d1 da, ArchFor st.d d1 sa.mask da ∧ da.handle ∉ st.pairs.map (·.2) ∧
      (d1.archs = st.d.archs ∨ d1.archs = st.d.archs ++ [da] ∧ da.values = []) ∧
      World.cloneFromStep e st sa =
        ⟨d1.setArch (sa.mapVals (cloneVal e) da.handle), st.pairs ++ [(sa.handle, da.handle)],
          st.drops ++ da.values⟩ := by
  have t := H.tables ht
  -- a written table has the mask of a processed source table
  have hnw : ∀ {d1 : World} {da : Arch}, ArchFor st.d d1 sa.mask da → da.handle ∉ st.pairs.map (·.2) := by
    intro d1 da af hw
    obtain ⟨sa', hsa', -, h2⟩ := H.of_written hw
    have hf := (af.old _ _ h2).symm.trans af.find
    exact hmask sa' hsa' ((congrArg Arch.mask (Option.some.inj hf)).trans af.mask)
  unfold World.cloneFromStep
  cases hhit : World.cfHit st.d sa.mask with
  | some da =>
    obtain ⟨hda, hdm⟩ := t.cfHit_eq_some.mp hhit
    have af := ArchFor.refl t (findArch_of_mem t.handles_nodup hda) hdm
    refine ⟨st.d, da, af, hnw af, .inl rfl, ?_⟩
    simp only [Arch.mapVals, ← hdm]
  | none =>
    have af := ArchFor.new t hm
      (fun a ha e => nomatch hhit.symm.trans (t.cfHit_eq_some.mpr ⟨ha, e⟩)) false nofun
    have hv : (Arch.new st.d.next sa.mask).values = [] := by simp [Arch.values, Arch.new]
    refine ⟨_, Arch.new st.d.next sa.mask, af, hnw af, .inr ⟨rfl, hv⟩, ?_⟩
    have hset : (withNewArch st.d sa.mask false).setArch (sa.mapVals (cloneVal e) st.d.next) =
        { st.d with archs := st.d.archs ++ [sa.mapVals (cloneVal e) st.d.next],
                    foreign := st.d.foreign ++ [(sa.mask, st.d.next)], next := st.d.next + 1 } := by
      show ({ withNewArch st.d sa.mask false with
        archs := replaceH (st.d.archs ++ [Arch.new st.d.next sa.mask]) _ } : World) = _
      rw [replaceH_append, replaceH_of_ne (a' := sa.mapVals (cloneVal e) st.d.next)
        (fun b hb => Nat.ne_of_lt (t.shape b hb).2.1),
        replaceH_cons_same (x := Arch.new st.d.next sa.mask) (a' := sa.mapVals (cloneVal e) st.d.next) rfl]
      rfl
    show (⟨_, _, _⟩ : World.CF) = ⟨(withNewArch st.d sa.mask false).setArch (sa.mapVals (cloneVal e) st.d.next), _, _⟩
    rw [hset, hv, List.append_nil]
    rfl

/-- One iteration on such a sum: the copy of `sa` joins the written side; the table it overwrites
leaves the unwritten side and is dropped.  What the copy adds on the written side, `c`, does not
depend on the handle it is written under (`hφ`). -/
theorem cfStep_wsum (H : CFOk st.d.n e proc st) (ht : (st.d.typeIds.map (·.1)).Nodup)
    (hm : sa.mask.length = st.d.n) (hmask : ∀ p ∈ proc, p.mask ≠ sa.mask) (φ ψ : Arch → Nat)
    (δ : List Val → Nat) {c : Nat} (hφ : ∀ h, φ (sa.mapVals (cloneVal e) h) = c)
    (hψ : ∀ a, ψ a = δ a.values) (hδ : ∀ x y, δ (x ++ y) = δ x + δ y) :
    δ (World.cloneFromStep e st sa).drops +
        wsum ((World.cloneFromStep e st sa).pairs.map (·.2)) φ ψ (World.cloneFromStep e st sa).d.archs =
      δ st.drops + wsum (st.pairs.map (·.2)) φ ψ st.d.archs + c := by
  obtain ⟨d1, da, af, hnw, hnew, heq⟩ := cfStep_eq H ht hm hmask
  rw [heq]
  have h1 := wsum_replace φ ψ (a' := sa.mapVals (cloneVal e) da.handle) af.tables.handles_nodup
    (findArch_some af.find).1 rfl hnw
  have h2 : wsum (st.pairs.map (·.2)) φ ψ d1.archs = wsum (st.pairs.map (·.2)) φ ψ st.d.archs := by
    rcases hnew with h | ⟨h, hv⟩
    · rw [h]
    · have h0 : δ [] = 0 := by
        have := hδ [] []
        rw [List.append_nil] at this
        omega
      rw [h, wsum_append, wsum_cons, if_neg (mt List.contains_iff_mem.mp hnw), hψ, hv, h0]
      rfl
  have h3 := hφ da.handle
  simp only [List.map_append, List.map_cons, List.map_nil, setArch_archs, hδ]
  rw [hψ] at h1
  omega

theorem cfStep_written_sum (H : CFOk st.d.n e proc st) (ht : (st.d.typeIds.map (·.1)).Nodup)
    (hm : sa.mask.length = st.d.n) (hmask : ∀ p ∈ proc, p.mask ≠ sa.mask) :
    ((World.cloneFromStep e st sa).d.archs.map (fun a =>
        if ((World.cloneFromStep e st sa).pairs.map (·.2)).contains a.handle then a.ids.length else 0)).sum =
      ((proc ++ [sa]).map (·.ids.length)).sum := by
  have := cfStep_wsum H ht hm hmask (·.ids.length) (fun _ => 0) (fun _ => 0) (c := sa.ids.length)
    (fun _ => rfl) (fun _ => rfl) (fun _ _ => rfl)
  have hw := H.written_sum
  simp only [wsum, Nat.zero_add] at this
  simp only [List.map_append, List.sum_append, List.map_cons, List.map_nil, List.sum_cons, List.sum_nil,
    Nat.add_zero]
  omega

/-- Occurrences of `x` in the destination tables that no source table has been written into yet. -/
def unwrittenCnt (x : Val) (st : World.CF) : Nat :=
  wsum (st.pairs.map (·.2)) (fun _ => 0) (Arch.cnt x) st.d.archs

theorem cfStep_drops (H : CFOk st.d.n e proc st) (ht : (st.d.typeIds.map (·.1)).Nodup)
    (hm : sa.mask.length = st.d.n) (hmask : ∀ p ∈ proc, p.mask ≠ sa.mask) (x : Val) :
    (World.cloneFromStep e st sa).drops.count x + unwrittenCnt x (World.cloneFromStep e st sa) =
      st.drops.count x + unwrittenCnt x st :=
  cfStep_wsum H ht hm hmask (fun _ => 0) (Arch.cnt x) (List.count x) (fun _ => rfl) (Arch.cnt_eq x)
    (fun _ _ => List.count_append)

theorem CFOk.step (H : CFOk st.d.n e proc st) (ht : (st.d.typeIds.map (·.1)).Nodup)
    (hs : ArchShape st.d.n sa) (hmask : ∀ p ∈ proc, p.mask ≠ sa.mask) :
    CFOk st.d.n e (proc ++ [sa]) (World.cloneFromStep e st sa) := by
  have hsum := cfStep_written_sum H ht hs.mask_len hmask
  obtain ⟨d1, da, af, hnw, -, heq⟩ := cfStep_eq H ht hs.mask_len hmask
  rw [heq] at hsum ⊢
  have hT : d1.findArch (sa.mapVals (cloneVal e) da.handle).handle = some da := af.find
  have t' := af.tables.setArch hT af.mask.symm (af.n ▸ hs.mapVals (cloneVal_ty e) _)
  refine ⟨t'.handles_nodup, t'.masks_nodup, fun a ha => af.n ▸ t'.shape a ha, t'.foreign, t'.typeIds,
    by simp [H.plen], fun j sa' hj => ?_, hsum⟩
  rw [List.getElem?_append] at hj ⊢
  rw [H.plen]
  by_cases hjl : j < proc.length
  · rw [if_pos hjl] at hj ⊢
    obtain ⟨t, T, h1, h2, h3⟩ := H.pairs j sa' hj
    -- a target written before is a table other than `da`
    have hne : t ≠ da.handle := fun h => hnw (h ▸ List.mem_map.mpr ⟨_, List.mem_of_getElem? h1, rfl⟩)
    exact ⟨t, T, h1, (findArch_setArch_ne d1 (sa.mapVals (cloneVal e) da.handle) hne).trans (af.old _ _ h2), h3⟩
  · rw [if_neg hjl, List.getElem?_singleton] at hj ⊢
    split at hj
    · next h0 =>
      cases hj
      exact ⟨da.handle, _, if_pos h0, findArch_setArch_same d1 (sa.mapVals (cloneVal e) da.handle) hT, rfl, rfl, rfl⟩
    · cases hj

/-! ### the whole loop -/

theorem cloneFromStep_frame (e : Nat) (st : World.CF) (sa : Arch) :
    (World.cloneFromStep e st sa).d.typeIds = st.d.typeIds ∧ (World.cloneFromStep e st sa).d.n = st.d.n := by
  unfold World.cloneFromStep
  cases World.cfHit st.d sa.mask <;> exact ⟨rfl, rfl⟩

theorem cloneFromArchs_frame (e : Nat) (l : List Arch) :
    ∀ st : World.CF, (World.cloneFromArchs e st l).d.typeIds = st.d.typeIds ∧
      (World.cloneFromArchs e st l).d.n = st.d.n := by
  unfold World.cloneFromArchs
  induction l with
  | nil => intro st; exact ⟨rfl, rfl⟩
  | cons sa rest ih =>
    intro st
    simp only [List.foldl_cons]
    obtain ⟨i1, i2⟩ := ih (World.cloneFromStep e st sa)
    obtain ⟨f1, f2⟩ := cloneFromStep_frame e st sa
    exact ⟨by rw [i1, f1], by rw [i2, f2]⟩

theorem cfLoop {e : Nat} (l : List Arch) :
    ∀ {proc : List Arch} {st : World.CF}, CFOk st.d.n e proc st → (st.d.typeIds.map (·.1)).Nodup →
      (∀ sa ∈ l, ArchShape st.d.n sa) → ((proc ++ l).map (·.mask)).Nodup →
      CFOk st.d.n e (proc ++ l) (World.cloneFromArchs e st l) ∧
      ∀ x, (World.cloneFromArchs e st l).drops.count x + unwrittenCnt x (World.cloneFromArchs e st l) =
        st.drops.count x + unwrittenCnt x st := by
  unfold World.cloneFromArchs
  induction l with
  | nil => intro proc st h _ _ _; exact ⟨by simpa using h, fun _ => rfl⟩
  | cons sa rest ih =>
    intro proc st h ht hs hn
    have hsa : ArchShape st.d.n sa := hs sa List.mem_cons_self
    have hmask : ∀ p ∈ proc, p.mask ≠ sa.mask := by
      intro p hp e'
      rw [List.map_append, List.nodup_append] at hn
      exact hn.2.2 p.mask (List.mem_map_of_mem hp) sa.mask (List.mem_map_of_mem List.mem_cons_self) e'
    obtain ⟨f1, f2⟩ := cloneFromStep_frame e st sa
    obtain ⟨i1, i2⟩ := ih (f2 ▸ CFOk.step h ht hsa hmask) (f1 ▸ ht)
      (fun y hy => f2 ▸ hs y (List.mem_cons_of_mem _ hy)) (by simpa using hn)
    exact ⟨by simpa [f2] using i1, fun x => by
      rw [List.foldl_cons, i2, cfStep_drops h ht hsa.mask_len hmask x]⟩

/-- The state in which the loop of `clone_from` ends. -/
def cfEnd (d s : World) (e : Nat) : World.CF := World.cloneFromArchs e ⟨d, [], []⟩ s.archs

/-- **The loop of `clone_from`, from any destination and source with `Inv` over one registry**: it
ends with `CFOk` for all source tables, over the source's registry and with the destination's
type-id keys untouched; and what it dropped, together with what unwritten tables still hold, is what
the destination's tables held. -/
theorem cfLoop_inv {d s : World} (hd : Inv d) (hs : Inv s) (hn : d.n = s.n) (e : Nat) :
    CFOk (cfEnd d s e).d.n e s.archs (cfEnd d s e) ∧ (cfEnd d s e).d.n = s.n ∧
    ((cfEnd d s e).d.typeIds.map (·.1)).Nodup ∧
    ∀ x, (cfEnd d s e).drops.count x + unwrittenCnt x (cfEnd d s e) = (d.archs.map (Arch.cnt x)).sum := by
  obtain ⟨h1, h2⟩ := cfLoop s.archs (proc := []) (st := ⟨d, [], []⟩) (CFOk.init hd e) hd.typeIds_nodup
    (fun sa hsa => hn ▸ (hs.archOk hsa).shape) hs.masks_nodup
  obtain ⟨ht, hn'⟩ := cloneFromArchs_frame e s.archs ⟨d, [], []⟩
  refine ⟨by simpa [cfEnd, hn'] using h1, hn'.trans hn, ?_, fun x => (h2 x).trans ?_⟩
  · rw [cfEnd, ht]
    exact hd.typeIds_nodup
  · simp [unwrittenCnt, wsum]

/-! ### `upsert` into the type-id table -/

theorem upsert_spec (l : List (Mask × Nat)) (m : Mask) (h : Nat) :
    (∀ p ∈ World.upsert l m h, p = (m, h) ∨ p ∈ l) ∧
    ((l.map (·.1)).Nodup → ((World.upsert l m h).map (·.1)).Nodup) := by
  unfold World.upsert
  split
  · refine ⟨fun p hp => ?_, fun hn => ?_⟩
    · obtain ⟨q, hq, rfl⟩ := List.mem_map.mp hp
      split
      · exact Or.inl rfl
      · exact Or.inr hq
    · -- replacing a value leaves the keys as they are
      have : ∀ q ∈ l, ((·.1) ∘ fun p => if p.1 == m then (m, h) else p) q = q.1 := by
        intro q _
        by_cases hqm : q.1 = m <;> simp [hqm]
      rwa [List.map_map, List.map_congr_left this]
  · rename_i hany
    refine ⟨fun p hp => ?_, fun hn => ?_⟩
    · rcases List.mem_append.mp hp with hp | hp
      · exact Or.inr hp
      · exact Or.inl (List.mem_singleton.mp hp)
    · rw [List.map_append]
      refine nodup_append_singleton hn fun hx => ?_
      obtain ⟨q, hq, hqm⟩ := List.mem_map.mp hx
      exact hany (List.any_eq_true.mpr ⟨q, hq, by simpa using hqm⟩)

theorem upsert_fold_spec (tys : List (Mask × Nat)) :
    ∀ init : List (Mask × Nat),
      (∀ p ∈ tys.foldl (fun acc p => World.upsert acc p.1 p.2) init, p ∈ tys ∨ p ∈ init) ∧
      ((init.map (·.1)).Nodup → ((tys.foldl (fun acc p => World.upsert acc p.1 p.2) init).map (·.1)).Nodup) := by
  induction tys with
  | nil => intro init; exact ⟨fun p hp => Or.inr hp, fun h => h⟩
  | cons t ts ih =>
    intro init
    obtain ⟨i1, i2⟩ := ih (World.upsert init t.1 t.2)
    obtain ⟨u1, u2⟩ := upsert_spec init t.1 t.2
    constructor
    · intro p hp
      rcases i1 p hp with h | h
      · left; simp [h]
      · rcases u1 p h with h | h
        · left; rw [h]; simp
        · right; exact h
    · intro hn; exact i2 (u2 hn)

/-! ### the finished destination -/

/-- Keep a table that received a source table, clear the others (`clear_detached`). -/
def cfKeep (written : List Nat) (a : Arch) : Arch := if written.contains a.handle then a else a.cleared

theorem cfKeep_handle (written : List Nat) (a : Arch) : (cfKeep written a).handle = a.handle := by
  unfold cfKeep; split <;> rfl

theorem cfKeep_mask (written : List Nat) (a : Arch) : (cfKeep written a).mask = a.mask := by
  unfold cfKeep; split <;> rfl

/-- The destination once the loop has ended in the state `st`, unless a handle is missed. -/
def cfFinal (st : World.CF) (s : World) (e : Nat) : World :=
  { st.d with archs := st.d.archs.map (cfKeep (st.pairs.map (·.2))),
              typeIds := (s.typeIds.map fun p => (p.1, mapG st.pairs p.2)).foldl
                (fun acc p => World.upsert acc p.1 p.2) st.d.typeIds,
              alloc := s.alloc.reloc (mapG st.pairs), len := s.len, res := s.res.map (cloneVal e) }

/-- What `clone_from` drops when the loop has ended in the state `st`. -/
def cfDrops (st : World.CF) (d : World) : List Val :=
  st.drops ++ (st.d.archs.filter fun a => !(st.pairs.map (·.2)).contains a.handle).flatMap Arch.values ++ d.res

theorem cloneFrom_eq (d s : World) (e : Nat) :
    World.cloneFrom d s e =
      match World.remapLookup (cfEnd d s e).pairs s.typeIds with
      | .ub x => .ub x
      | .ok tys =>
        match s.alloc.remap (World.mapH (cfEnd d s e).pairs) with
        | .ub x => .ub x
        | .ok al =>
          .ok ({ cfFinal (cfEnd d s e) s e with
                 typeIds := tys.foldl (fun acc p => World.upsert acc p.1 p.2) (cfEnd d s e).d.typeIds,
                 alloc := al },
               cfDrops (cfEnd d s e) d) := rfl

theorem cloneFrom_eq_ok {d s fin : World} {drops : List Val} {e : Nat}
    (h : World.cloneFrom d s e = .ok (fin, drops)) :
    fin = cfFinal (cfEnd d s e) s e ∧ drops = cfDrops (cfEnd d s e) d := by
  rw [cloneFrom_eq] at h
  split at h
  · cases h
  · rename_i tys h1
    split at h
    · cases h
    · rename_i al h2
      cases h
      rw [remapLookup_eq_ok h1, remap_eq_ok h2]
      exact ⟨rfl, rfl⟩

/-! ### the finished destination is a copy of the source -/

theorem CFOk.keys (H : CFOk n e proc st) : st.pairs.map (·.1) = proc.map (·.handle) := by
  apply List.ext_getElem?
  intro j
  rw [List.getElem?_map, List.getElem?_map]
  cases hj : proc[j]? with
  | some sa' =>
    obtain ⟨t, h1, -⟩ := H.pair hj
    rw [h1]
    rfl
  | none =>
    rw [List.getElem?_eq_none (H.plen ▸ List.getElem?_eq_none_iff.mp hj)]
    rfl

theorem CFOk.target (H : CFOk n e proc st) (hn : (proc.map (·.handle)).Nodup) {sa : Arch} (hsa : sa ∈ proc) :
    World.mapH st.pairs sa.handle = some (mapG st.pairs sa.handle) ∧
      mapG st.pairs sa.handle ∈ st.pairs.map (·.2) ∧
      st.d.findArch (mapG st.pairs sa.handle) = some (sa.mapVals (cloneVal e) (mapG st.pairs sa.handle)) := by
  obtain ⟨j, hj⟩ := List.getElem?_of_mem hsa
  obtain ⟨t, h1, h2⟩ := H.pair hj
  have hl : World.mapH st.pairs sa.handle = some t :=
    (lookup_some_iff (H.keys ▸ hn)).mpr (List.mem_of_getElem? h1)
  have ht : mapG st.pairs sa.handle = t := by rw [mapG, hl]; rfl
  rw [ht]
  exact ⟨hl, List.mem_map.mpr ⟨_, List.mem_of_getElem? h1, rfl⟩, h2⟩

theorem CFOk.written (H : CFOk n e proc st) (hn : (proc.map (·.handle)).Nodup) {T : Arch} (hT : T ∈ st.d.archs)
    (hw : T.handle ∈ st.pairs.map (·.2)) :
    ∃ sa ∈ proc, T = sa.mapVals (cloneVal e) (mapG st.pairs sa.handle) := by
  obtain ⟨sa, hsa, hp, h2⟩ := H.of_written hw
  refine ⟨sa, hsa, ?_⟩
  rw [mapG, World.mapH, (lookup_some_iff (H.keys ▸ hn)).mpr hp]
  exact Option.some.inj ((findArch_of_mem H.handles_nodup hT).symm.trans h2)

theorem findArch_cfFinal (st : World.CF) (s : World) (e h : Nat) :
    (cfFinal st s e).findArch h = (st.d.findArch h).map (cfKeep (st.pairs.map (·.2))) :=
  find_map_handle _ (cfKeep_handle _) _ _

theorem cfFinal_copy {s : World} (H : CFOk n e s.archs st) (hs : Inv s) (hn : st.d.n = s.n) :
    Copy (cloneVal e) (mapG st.pairs) s (cfFinal st s e) := by
  refine ⟨hn, rfl, rfl, rfl, fun a ha => ?_⟩
  obtain ⟨-, h2, h3⟩ := H.target hs.handles_nodup ha
  -- a written table is kept as it is
  rw [findArch_cfFinal, h3, Option.map_some, cfKeep, if_pos]
  exact List.contains_iff_mem.mpr h2

theorem cfFinal_tables {s : World} (H : CFOk st.d.n e s.archs st) (hs : Inv s) (hn : st.d.n = s.n)
    (ht : (st.d.typeIds.map (·.1)).Nodup) : Tables (cfFinal st s e) := by
  have hup := upsert_fold_spec (s.typeIds.map fun p => (p.1, mapG st.pairs p.2)) st.d.typeIds
  have t := (H.tables ht).mapArchs (cfKeep (st.pairs.map (·.2))) (fun a _ => cfKeep_handle _ a) (fun a _ => cfKeep_mask _ a) fun a ha => by
    unfold cfKeep
    split
    · exact (H.shape a ha).1
    · exact (H.shape a ha).1.cleared
  refine ⟨t.shape, t.masks_nodup, t.handles_nodup, fun p hp => ?_, hup.2 ht, t.foreign⟩
  rcases hup.1 p hp with hpt | hpo
  · obtain ⟨p0, hp0, rfl⟩ := List.mem_map.mp hpt
    exact (cfFinal_copy H hs hn).lookupOk (hs.typeIds p0 hp0)
  · exact t.typeIds p hpo

theorem cfFinal_inv {s : World} (H : CFOk st.d.n e s.archs st) (hs : Inv s) (hn : st.d.n = s.n)
    (ht : (st.d.typeIds.map (·.1)).Nodup) : Inv (cfFinal st s e) := by
  refine Inv.of_halves (cfFinal_tables H hs hn ht) ((cfFinal_copy H hs hn).linked hs (fun T hT => ?_) ?_)
  · obtain ⟨a, ha, rfl⟩ := List.mem_map.mp hT
    unfold cfKeep
    split
    · rename_i hw
      exact Or.inr (H.written hs.handles_nodup ha (List.contains_iff_mem.mp hw))
    · exact Or.inl rfl
  · show s.len = ((st.d.archs.map (cfKeep _)).map (·.ids.length)).sum
    rw [List.map_map, hs.len, ← H.written_sum]
    congr 1
    apply List.map_congr_left
    intro a _
    simp only [Function.comp, cfKeep]
    split <;> rfl

/-! ### `clone_from` -/

theorem cloneFrom_copy {d s : World} (hd : Inv d) (hs : Inv s) (hn : d.n = s.n) (e : Nat) :
    Copy (cloneVal e) (mapG (cfEnd d s e).pairs) s (cfFinal (cfEnd d s e) s e) :=
  let ⟨H, hn', _, _⟩ := cfLoop_inv hd hs hn e
  cfFinal_copy H hs hn'

theorem cloneFrom_inv {d s : World} (hd : Inv d) (hs : Inv s) (hn : d.n = s.n) (e : Nat) :
    Inv (cfFinal (cfEnd d s e) s e) :=
  let ⟨H, hn', ht, _⟩ := cfLoop_inv hd hs hn e
  cfFinal_inv H hs hn' ht

/-- **`clone_from` never fails** between worlds satisfying the invariant over one registry: the
handle map the loop recorded covers every table of the source. -/
theorem cloneFrom_ok {d s : World} (hd : Inv d) (hs : Inv s) (hn : d.n = s.n) (e : Nat) :
    World.cloneFrom d s e = .ok (cfFinal (cfEnd d s e) s e, cfDrops (cfEnd d s e) d) := by
  obtain ⟨H, -, -, -⟩ := cfLoop_inv hd hs hn e
  have hp : ∀ sa ∈ s.archs, (World.mapH (cfEnd d s e).pairs sa.handle).isSome := fun sa hsa => by
    rw [(H.target hs.handles_nodup hsa).1]; rfl
  rw [cloneFrom_eq, hs.remapLookup_ok hp, hs.remap_ok hp]
  rfl

theorem cloneFrom_spec {d s : World} (hd : Inv d) (hs : Inv s) (hn : d.n = s.n) (e : Nat) :
    ∃ fin drops, World.cloneFrom d s e = .ok (fin, drops) ∧ Inv fin ∧ fin.n = s.n ∧ fin.len = s.len ∧
      fin.res = s.res.map (cloneVal e) ∧
      ∀ id, fin.entity id = (s.entity id).map (fun vs => vs.map (cloneVal e)) :=
  have cp := cloneFrom_copy hd hs hn e
  ⟨_, _, cloneFrom_ok hd hs hn e, cloneFrom_inv hd hs hn e, cp.n, cp.len, cp.res, cp.entity hs⟩

/-! ### what `clone_from` drops, and what stays dead -/

/-- **`clone_from` drops exactly what the destination owned** — its component values, overwritten in
place or cleared, and its resources — each once. -/
theorem cloneFrom_drops {d s fin : World} {drops : List Val} (hd : Inv d) (hs : Inv s) (hn : d.n = s.n)
    {e : Nat} (h : World.cloneFrom d s e = .ok (fin, drops)) : drops.Perm d.values := by
  obtain ⟨-, rfl⟩ := cloneFrom_eq_ok h
  apply List.perm_iff_count.mpr
  intro x
  -- dropped by the loop + still in an unwritten table = owned by the destination's tables
  have hl := (cfLoop_inv hd hs hn e).2.2.2 x
  generalize cfEnd d s e = st at hl
  have hstale : ((st.d.archs.filter fun a => !(st.pairs.map (·.2)).contains a.handle).flatMap
      Arch.values).count x = unwrittenCnt x st := by
    rw [List.count_flatMap, unwrittenCnt, wsum, ← sum_filter_if]
    exact congrArg List.sum (List.map_congr_left fun a _ => (Arch.cnt_eq x a).symm)
  rw [← World.cnt_eq, cfDrops, List.count_append, List.count_append, hstale, World.cnt, ← hl]

theorem cloneFrom_keeps_dead {d s fin : World} {drops : List Val} {e : Nat}
    (h : World.cloneFrom d s e = .ok (fin, drops)) {x : Ident} (hd : Dead s.alloc x) : Dead fin.alloc x := by
  obtain ⟨rfl, -⟩ := cloneFrom_eq_ok h
  exact hd.reloc _

end Brood
