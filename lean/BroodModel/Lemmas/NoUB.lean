/-
  Totality: on a world satisfying the invariant, every single-world operation (`Op`) whose
  arguments the type system admits (`Op.wt`) runs to completion — none of the `*_unchecked` /
  raw-pointer preconditions the model checks (`Out.ub`) is ever violated.
-/
import BroodModel.Lemmas.Ops

namespace Brood
open Alloc
open Serde (ArchShape)

/-! ### `insert`, `extend`, `reserve`, `remove` -/

theorem pushRows_ok {n : Nat} {shape : List Nat} (rows : List (List Val)) :
    ∀ (a : Arch) (ids : List Ident), ids.length = rows.length → a.cols.length = a.mask.count →
      (∀ r ∈ rows, (World.canonVals n shape r).map (·.ty) = a.mask.comps) →
      ∃ a', World.pushRows n shape a ids rows = .ok a' := by
  induction rows with
  | nil =>
    intro a ids _ _ _
    exact ⟨a, by cases ids <;> rfl⟩
  | cons r rows ih =>
    intro a ids hl hc hty
    cases ids with
    | nil => simp at hl
    | cons id ids =>
      have hr := hty r (by simp)
      have h1 := pushRow_ok hc hr id
      obtain ⟨a', h2⟩ := ih (a.push (World.canonVals n shape r) id) ids (by simpa using hl)
        (by simp [Arch.push, hc, ← comps_length, ← hr]) (fun x hx => hty x (by simp [hx]))
      exact ⟨a', by simp only [World.pushRows, h1, h2]⟩

theorem insert_ok {w : World} (hi : Inv w) {shape : List Nat} {vals : List Val}
    (hs : World.shapeOk w.n shape vals = true) : ∃ w' id, w.insert shape vals = .ok (w', id) := by
  obtain ⟨w1, a, e1, af⟩ := archForEntity_spec hi.tables (ofShape_length w.n shape)
  obtain ⟨al, nid, e3⟩ := allocate_ok (af.inv hi.linked).ainv ⟨a.handle, a.ids.length⟩
  have sh := af.tables.find_shape af.find
  have hty : (World.canonVals w.n shape vals).map (·.ty) = a.mask.comps := by rw [canonVals_tys hs, af.mask]
  have e4 := pushRow_ok sh.cols_len hty nid
  simp only [World.insert, e1, getArch_eq_ok.mpr af.find, e3, e4]
  exact ⟨_, _, rfl⟩

theorem extend_ok {w : World} (hi : Inv w) {shape : List Nat} {rows : List (List Val)}
    (hs : ∀ r ∈ rows, World.shapeOk w.n shape r = true) :
    ∃ w' ids, w.extend shape rows = .ok (w', ids) := by
  obtain ⟨w1, a, e1, af⟩ := archForEntity_spec hi.tables (ofShape_length w.n shape)
  obtain ⟨al, ids, e3⟩ := allocateBatch_ok (af.inv hi.linked).ainv a.handle a.ids.length rows.length
  obtain ⟨a', e4⟩ := pushRows_ok rows a ids (allocateBatch_length e3)
    (af.tables.find_shape af.find).cols_len fun r hr => by rw [canonVals_tys (hs r hr), af.mask]
  simp only [World.extend, e1, getArch_eq_ok.mpr af.find, e3, e4]
  exact ⟨_, _, rfl⟩

theorem reserve_ok {w : World} (hi : Inv w) (shape : List Nat) : ∃ w', w.reserve shape = .ok w' := by
  obtain ⟨w1, h, e1, -⟩ := archForEntity_spec hi.tables (ofShape_length w.n shape)
  exact ⟨w1, by simp only [World.reserve, e1]⟩

theorem remove_ok {w : World} (hi : Inv w) (id : Ident) : ∃ w' drops, w.remove id = .ok (w', drops) := by
  unfold World.remove
  cases hg : w.alloc.get id with
  | none => exact ⟨_, _, rfl⟩
  | some loc =>
    obtain ⟨a, la, hh⟩ := hi.liveAt hg
    obtain ⟨w1, e1, tk⟩ := takeRowAt_spec hi la
    obtain ⟨al, e2⟩ := release_ok tk.detached.live
    simp only [← hh, e1, e2]
    exact ⟨_, _, rfl⟩

/-! ### the in-place branch and the row move -/

theorem overwrite_ok {w : World} {n : Nat} {a : Arch} (ok : ArchShape n a) {c r : Nat} (hc : a.mask.has c = true)
    (hr : r < a.ids.length) {v : Val} (hv : v.ty = c) : ∃ w' res, w.overwrite a r c v = .ok (w', res) := by
  obtain ⟨col, old, h1, h2, h3⟩ := cell_typed ok hc hr
  have : ¬ (old.ty ≠ c ∨ v.ty ≠ c) := by simp [h3, hv]
  simp only [World.overwrite, h1, h2, this, if_false]
  exact ⟨_, _, rfl⟩

theorem moveRow_ok {w : World} (hi : Inv w) {id : Ident} {a : Arch} {r : Nat} (la : LiveAt w id a r)
    {m' : Mask} (hm : m'.length = w.n) {f : List Val → List Val}
    (hcv : (f (a.row r)).map (·.ty) = m'.comps) (g : List Val → List Val) :
    ∃ w' res, w.moveRow a.handle r m' f g = .ok (w', res) := by
  obtain ⟨w1, e1, tk⟩ := takeRowAt_spec hi la
  obtain ⟨w2, t, e2, af⟩ := archForMask_spec tk.detached.tables (m := m') (by rw [tk.n]; exact hm)
  obtain ⟨al, e5⟩ := setLoc_ok (af.alloc ▸ tk.detached.live) ⟨t.handle, t.ids.length⟩
  have e4 := pushRow_ok (af.tables.find_shape af.find).cols_len (hcv.trans (af.mask ▸ rfl)) id
  simp only [World.moveRow, e1, e2, getArch_eq_ok.mpr af.find, e4, e5]
  exact ⟨_, _, rfl⟩

/-! ### `write`, `Entry::add`, `Entry::remove` -/

theorem write_ok {w : World} (hi : Inv w) (id : Ident) {c : Nat} {v : Val} (hv : v.ty = c) :
    ∃ w' r, w.write id c v = .ok (w', r) := by
  rw [write_eq]
  cases hg : w.alloc.get id with
  | none => exact ⟨_, _, rfl⟩
  | some loc =>
    obtain ⟨a, la, hh⟩ := hi.liveAt hg
    simp only [← hh, la.find]
    split
    next hc => exact overwrite_ok la.ok.shape hc la.row_lt hv
    next => exact ⟨_, _, rfl⟩

theorem entryAdd_ok {w : World} (hi : Inv w) (id : Ident) {c : Nat} {v : Val} (hc : c < w.n)
    (hv : v.ty = c) : ∃ w' r, w.entryAdd id c v = .ok (w', r) := by
  rw [entryAdd_eq, World.atEntry]
  cases hg : w.alloc.get id with
  | none => exact ⟨_, _, rfl⟩
  | some loc =>
    obtain ⟨a, la, hh⟩ := hi.liveAt hg
    simp only [← hh, getArch_eq_ok.mpr la.find]
    split
    next hcm => exact overwrite_ok la.ok.shape hcm la.row_lt hv
    next hcm =>
      refine moveRow_ok hi la (by simp [World.setBit, la.ok.mask_len]) ?_ _
      rw [map_insertAt, la.ok.shape.row_tys la.row_lt, hv]
      unfold World.setBit
      rw [colIndex_set, comps_set_true (la.ok.mask_len ▸ hc) ((Bool.not_eq_true _).mp hcm)]

theorem entryRemove_ok {w : World} (hi : Inv w) (id : Ident) (c : Nat) :
    ∃ w' r, w.entryRemove id c = .ok (w', r) := by
  rw [entryRemove_eq, World.atEntry]
  cases hg : w.alloc.get id with
  | none => exact ⟨_, _, rfl⟩
  | some loc =>
    obtain ⟨a, la, hh⟩ := hi.liveAt hg
    simp only [← hh, getArch_eq_ok.mpr la.find]
    split
    next hcm =>
      refine moveRow_ok hi la (by simp [World.setBit, la.ok.mask_len]) ?_ _
      rw [map_eraseIdx, la.ok.shape.row_tys la.row_lt]
      unfold World.setBit
      rw [comps_set_false hcm]
    next => exact ⟨_, _, rfl⟩

/-! ### histories -/

theorem step_total {w : World} (hi : Inv w) {op : Op} (hwt : op.wt w.n) : ∃ w', step w op = .ok w' := by
  cases op with
  | insert shape vals => obtain ⟨w', _, h⟩ := insert_ok hi hwt; exact ⟨w', congrArg fstOut h⟩
  | extend shape rows => obtain ⟨w', _, h⟩ := extend_ok hi hwt; exact ⟨w', congrArg fstOut h⟩
  | remove id => obtain ⟨w', _, h⟩ := remove_ok hi id; exact ⟨w', congrArg fstOut h⟩
  | clear order => obtain ⟨w', _, h⟩ := clear_ok hi order; exact ⟨w', congrArg fstOut h⟩
  | add id c v => obtain ⟨w', _, h⟩ := entryAdd_ok hi id hwt.1 hwt.2; exact ⟨w', congrArg fstOut h⟩
  | del id c => obtain ⟨w', _, h⟩ := entryRemove_ok hi id c; exact ⟨w', congrArg fstOut h⟩
  | write id c v => obtain ⟨w', _, h⟩ := write_ok hi id hwt; exact ⟨w', congrArg fstOut h⟩
  | reserve shape => exact reserve_ok hi shape
  | shrink => exact ⟨_, rfl⟩

theorem run_total {w : World} (hi : Inv w) (ops : List Op) (hwt : ∀ op ∈ ops, op.wt w.n) :
    ∃ w', run w ops = .ok w' ∧ Inv w' ∧ w'.n = w.n := by
  induction ops generalizing w with
  | nil => exact ⟨w, rfl, hi, rfl⟩
  | cons op ops ih =>
    obtain ⟨w1, h1⟩ := step_total hi (hwt op (by simp))
    have hn1 := step_n h1
    obtain ⟨w', h2, hi2, hn2⟩ := ih (step_inv hi h1) (fun o ho => by rw [hn1]; exact hwt o (by simp [ho]))
    exact ⟨w', by simp [run, h1, h2], hi2, by rw [hn2, hn1]⟩

end Brood
