/-
  One table: what `pushRow`, `takeRow`, overwriting a cell, `cleared` and sending every value through
  a function (`Arch.mapVals`: the copies) do to its shape, its identifiers and its rows.  Nothing
  here mentions a world.
-/
import BroodModel.Lemmas.Linked
import BroodModel.Lemmas.Basic

namespace Brood
open Serde (ArchShape)

/-- Row `r` of a table: one value per column, in column (= registry) order. -/
def Arch.row (a : Arch) (r : Nat) : List Val := a.cols.filterMap (fun c => c[r]?)

theorem Serde.ArchShape.row_eq_map {n : Nat} {a : Arch} (s : ArchShape n a) {r : Nat} (hr : r < a.ids.length) :
    a.row r = a.cols.map (fun c => c.getD r default) :=
  filterMap_eq_map fun c hc => by
    have : r < c.length := s.cols_all_len c hc ▸ hr
    simp [List.getD, List.getElem?_eq_getElem this]

theorem Serde.ArchShape.row_tys {n : Nat} {a : Arch} (s : ArchShape n a) {r : Nat} (hr : r < a.ids.length) :
    (a.row r).map (·.ty) = a.mask.comps := by
  rw [s.row_eq_map hr, List.map_map]
  refine List.ext_getElem? fun k => ?_
  rw [List.getElem?_map]
  cases hk : a.cols[k]? with
  | none =>
    have := List.getElem?_eq_none_iff.mp hk
    rw [Option.map_none, List.getElem?_eq_none (s.comps_len ▸ this)]
  | some c =>
    have hk' : k < a.mask.comps.length := s.comps_len ▸ (List.getElem?_eq_some_iff.mp hk).1
    obtain ⟨hlen, hty⟩ := s.cols_ok k c _ hk (List.getElem?_eq_getElem hk')
    have hr' : r < c.length := hlen ▸ hr
    rw [List.getElem?_eq_getElem hk', Option.map_some]
    simp only [Function.comp, List.getD, List.getElem?_eq_getElem hr', Option.getD_some]
    rw [hty _ (List.getElem_mem hr')]

theorem cell_typed {n : Nat} {a : Arch} (ok : ArchShape n a) {c r : Nat} (hc : a.mask.has c = true)
    (hr : r < a.ids.length) :
    ∃ col old, a.cols[colIndex a.mask c]? = some col ∧ col[r]? = some old ∧ old.ty = c := by
  have hk : colIndex a.mask c < a.cols.length := by rw [ok.cols_len]; exact colIndex_lt_count hc
  obtain ⟨hlen, hty⟩ := ok.cols_ok _ _ c (List.getElem?_eq_getElem hk) (colIndex_comps hc)
  have hr' : r < (a.cols[colIndex a.mask c]).length := by rw [hlen]; exact hr
  exact ⟨_, _, List.getElem?_eq_getElem hk, List.getElem?_eq_getElem hr', hty _ (List.getElem_mem hr')⟩

/-! ### `pushRow` -/

/-- What `pushRow` returns when it succeeds (`pushRow_eq_ok`). -/
def Arch.push (a : Arch) (cv : List Val) (id : Ident) : Arch :=
  { a with ids := a.ids ++ [id], cols := List.zipWith (fun c v => c ++ [v]) a.cols cv }

theorem Arch.push_ids_length (a : Arch) (cv : List Val) (id : Ident) :
    (a.push cv id).ids.length = a.ids.length + 1 :=
  List.length_append

theorem pushRow_eq_ok {a a' : Arch} {cv : List Val} {id : Ident} :
    a.pushRow cv id = .ok a' ↔
      cv.map (·.ty) = a.mask.comps ∧ cv.length = a.cols.length ∧ a' = a.push cv id := by
  unfold Arch.pushRow Arch.push
  split
  · simp [*]
  split
  · simp [*]
  · simp_all [eq_comm]

theorem pushRow_ok {a : Arch} {cv : List Val} (hc : a.cols.length = a.mask.count)
    (hty : cv.map (·.ty) = a.mask.comps) (id : Ident) : a.pushRow cv id = .ok (a.push cv id) :=
  pushRow_eq_ok.mpr ⟨hty, by rw [hc, ← comps_length, ← hty, List.length_map], rfl⟩

theorem Serde.ArchShape.push {n : Nat} {a : Arch} (s : ArchShape n a) {cv : List Val} (id : Ident)
    (hty : cv.map (·.ty) = a.mask.comps) : ArchShape n (a.push cv id) := by
  have hlen := s.length_of_tys hty
  refine ⟨s.mask_len, by simp [Arch.push, hlen, s.cols_len], fun j c ty hc hj => ?_⟩
  obtain ⟨c0, v, hc0, hv, rfl⟩ := List.getElem?_zipWith_eq_some.mp hc
  obtain ⟨h1, h2⟩ := s.cols_ok j c0 ty hc0 hj
  have hvt : v.ty = ty := by
    have := congrArg (·[j]?) hty
    simp only [List.getElem?_map, hv, Option.map_some] at this
    exact Option.some.inj (this.trans hj)
  refine ⟨by simp [Arch.push, h1], fun x hx => ?_⟩
  rcases List.mem_append.mp hx with hx | hx
  · exact h2 x hx
  · rw [List.mem_singleton.mp hx, hvt]

theorem filterMap_zipWith_snoc {α} {cols : List (List α)} {cv : List α} {n : Nat}
    (hlen : cv.length = cols.length) (hcols : ∀ c ∈ cols, c.length = n) (r : Nat) :
    (List.zipWith (fun c v => c ++ [v]) cols cv).filterMap (fun c => c[r]?) =
      if r = n then cv else cols.filterMap (fun c => c[r]?) := by
  induction cols generalizing cv with
  | nil => cases cv <;> simp_all
  | cons c cs ih =>
    cases cv with
    | nil => simp at hlen
    | cons v vs =>
      rw [List.zipWith_cons_cons, List.filterMap_cons, List.filterMap_cons, getElem?_append_singleton,
        hcols c (by simp), ih (by simpa using hlen) (fun x hx => hcols x (by simp [hx]))]
      by_cases hrn : r = n <;> simp [hrn]

theorem Serde.ArchShape.push_row {n : Nat} {a : Arch} (s : ArchShape n a) {cv : List Val} (id : Ident)
    (hlen : cv.length = a.cols.length) (r : Nat) :
    (a.push cv id).row r = if r = a.ids.length then cv else a.row r :=
  filterMap_zipWith_snoc hlen s.cols_all_len r

/-! ### `takeRow` -/

/-- The table after row `r` has been swap-removed. -/
def removedArch (a : Arch) (r : Nat) : Arch :=
  { a with ids := swapRemove a.ids r, cols := a.cols.map (fun c => swapRemove c r) }

theorem rowVals_spec {a : Arch} {r : Nat} (h : ∀ c ∈ a.cols, r < c.length) : a.rowVals r = .ok (a.row r) := by
  unfold Arch.rowVals Arch.row
  generalize a.cols = cols at h
  induction cols with
  | nil => rfl
  | cons c cs ih =>
    simp [Arch.rowVals.go, List.getElem?_eq_getElem (h c (by simp)), ih (fun x hx => h x (by simp [hx]))]

theorem takeRow_spec {n : Nat} {a : Arch} (s : ArchShape n a) {r : Nat} {id : Ident}
    (hr : a.ids[r]? = some id) : a.takeRow r = .ok (removedArch a r, a.row r, id) := by
  have hlt : r < a.ids.length := (List.getElem?_eq_some_iff.mp hr).1
  have hany : (a.cols.any fun c => decide (c.length ≠ a.ids.length)) = false :=
    List.any_eq_false.mpr fun c hc => by simp [s.cols_all_len c hc]
  simp only [Arch.takeRow, hr, hany, rowVals_spec fun c hc => s.cols_all_len c hc ▸ hlt, removedArch]
  rfl

theorem Serde.ArchShape.removed {n : Nat} {a : Arch} (s : ArchShape n a) (r : Nat) :
    ArchShape n (removedArch a r) := by
  refine ⟨s.mask_len, by simp [removedArch, s.cols_len], fun k c ty hc hty => ?_⟩
  simp only [removedArch, List.getElem?_map, Option.map_eq_some_iff] at hc
  obtain ⟨c0, hc0, rfl⟩ := hc
  obtain ⟨h1, h2⟩ := s.cols_ok k c0 ty hc0 hty
  exact ⟨by simp [removedArch, swapRemove_length, h1], fun v hv => h2 v (mem_swapRemove hv)⟩

theorem Serde.ArchShape.removed_row {n : Nat} {a : Arch} (s : ArchShape n a) {r : Nat} (hr : r < a.ids.length)
    (j : Nat) :
    (removedArch a r).row j =
      if j = a.ids.length - 1 then [] else if j = r then a.row (a.ids.length - 1) else a.row j := by
  have hcol : ∀ c ∈ a.cols, (swapRemove c r)[j]? =
      if j = a.ids.length - 1 then none else if j = r then c[a.ids.length - 1]? else c[j]? := by
    intro c hc
    have := s.cols_all_len c hc
    rw [swapRemove_getElem? c (this ▸ hr), this]
  unfold Arch.row removedArch
  rw [List.filterMap_map, filterMap_congr' (f := (·[j]?) ∘ (swapRemove · r)) hcol]
  split
  · exact List.filterMap_eq_nil_iff.mpr fun _ _ => rfl
  · split <;> rfl

/-! ### overwriting a cell, emptying, creating -/

theorem Serde.ArchShape.setCell {n : Nat} {a : Arch} (s : ArchShape n a) {k r : Nat} {col : List Val}
    {old v : Val} (hcol : a.cols[k]? = some col) (hold : col[r]? = some old) (hv : v.ty = old.ty) :
    ArchShape n { a with cols := a.cols.set k (col.set r v) } := by
  refine ⟨s.mask_len, by simp [s.cols_len], fun j c ty hc hty => ?_⟩
  simp only [List.getElem?_set] at hc
  split at hc
  · subst_vars
    split at hc <;> cases hc
    obtain ⟨h1, h2⟩ := s.cols_ok _ col ty hcol hty
    refine ⟨by simp [h1], fun x hx => ?_⟩
    rcases List.mem_or_eq_of_mem_set hx with hx | rfl
    · exact h2 x hx
    · rw [hv]; exact h2 old (List.mem_of_getElem? hold)
  · exact s.cols_ok j c ty hc hty

theorem Serde.ArchShape.setCell_row {n : Nat} {a : Arch} (s : ArchShape n a) {k r : Nat} {col : List Val}
    {old v : Val} (hcol : a.cols[k]? = some col) (hold : col[r]? = some old) (hv : v.ty = old.ty) {j : Nat}
    (hj : j < a.ids.length) :
    ({ a with cols := a.cols.set k (col.set r v) } : Arch).row j =
      if j = r then (a.row r).set k v else a.row j := by
  rw [(s.setCell hcol hold hv).row_eq_map hj]
  show (a.cols.set k (col.set r v)).map _ = _
  rw [List.map_set]
  split
  · subst_vars
    rw [s.row_eq_map hj]
    simp [(List.getElem?_eq_some_iff.mp hold).1]
  · rename_i hjr
    obtain ⟨hk, rfl⟩ := List.getElem?_eq_some_iff.mp hcol
    rw [s.row_eq_map hj]
    refine List.ext_getElem? fun i => ?_
    rw [List.getElem?_set]
    split
    · subst_vars
      simp [hk, List.getElem?_set_ne (Ne.symm hjr)]
    · rfl

theorem Serde.ArchShape.cleared {n : Nat} {a : Arch} (s : ArchShape n a) : ArchShape n a.cleared := by
  refine ⟨s.mask_len, by simp [Arch.cleared, s.cols_len], fun j c ty hc _ => ?_⟩
  simp only [Arch.cleared, List.getElem?_map, Option.map_eq_some_iff] at hc
  obtain ⟨_, _, rfl⟩ := hc
  simp [Arch.cleared]

theorem Serde.ArchShape.new {n : Nat} {m : Mask} (hm : m.length = n) (h : Nat) : ArchShape n (Arch.new h m) := by
  refine ⟨hm, by simp [Arch.new], fun j c ty hc _ => ?_⟩
  simp only [Arch.new, List.getElem?_replicate] at hc
  split at hc <;> cases hc
  simp [Arch.new]

/-! ### every value of a table mapped -/

/-- Table `a` under the handle `h`, every value sent through `φ`. -/
def Arch.mapVals (φ : Val → Val) (h : Nat) (a : Arch) : Arch := ⟨h, a.mask, a.ids, a.cols.map (·.map φ)⟩

theorem cloneWith_eq (e h : Nat) (a : Arch) : World.Arch.cloneWith e h a = a.mapVals (cloneVal e) h := rfl

theorem mapVals_of_fields {φ : Val → Val} {T sa : Arch} (hm : T.mask = sa.mask) (hi : T.ids = sa.ids)
    (hc : T.cols = sa.cols.map (·.map φ)) : T = sa.mapVals φ T.handle := by
  cases T
  cases hm
  cases hi
  cases hc
  rfl

theorem Arch.mapVals_mapVals (φ ψ : Val → Val) (h h' : Nat) (a : Arch) :
    (a.mapVals φ h).mapVals ψ h' = a.mapVals (ψ ∘ φ) h' := by
  simp [Arch.mapVals, List.map_map, Function.comp_def]

theorem Arch.row_mapVals (φ : Val → Val) (h r : Nat) (a : Arch) : (a.mapVals φ h).row r = (a.row r).map φ := by
  simp only [Arch.row, Arch.mapVals, List.filterMap_map, List.map_filterMap]
  congr 1
  funext c
  simp [Function.comp, List.getElem?_map]

theorem Arch.values_mapVals (φ : Val → Val) (h : Nat) (a : Arch) : (a.mapVals φ h).values = a.values.map φ := by
  simp [Arch.values, Arch.mapVals, List.map_flatten]

theorem Serde.ArchShape.mapVals {n : Nat} {a : Arch} {φ : Val → Val} (s : ArchShape n a) (hφ : ∀ v, (φ v).ty = v.ty) (h : Nat) :
    ArchShape n (a.mapVals φ h) := by
  refine ⟨s.mask_len, by simp [Arch.mapVals, s.cols_len], ?_⟩
  intro j c ty hj hty
  simp only [Arch.mapVals, List.getElem?_map, Option.map_eq_some_iff] at hj
  obtain ⟨c0, hc0, rfl⟩ := hj
  obtain ⟨o1, o2⟩ := s.cols_ok j c0 ty hc0 hty
  refine ⟨(List.length_map _).trans o1, ?_⟩
  intro v hv
  obtain ⟨v0, hv0, rfl⟩ := List.mem_map.mp hv
  rw [hφ]
  exact o2 v0 hv0

end Brood
