/-
  Which identifiers a world hands out is decided by very little of it: per slot the generation and
  whether it is in use, and the free queue (`Alloc.abs`).  Every world operation transforms this
  abstraction by a function of the abstraction and the operation alone (`opAbs`) — not of the
  tables, their order, the values, or where the rows are.  Two worlds with the same abstraction
  (a world and its round-tripped copy, a world and its clone) that receive the same operations
  therefore issue the same identifiers, for ever (C06: "behaves identically … same identifiers
  issued").  `clear` is the operation that made this false before repair 0564c68.
-/
import BroodModel.Lemmas.AllocPres
import BroodModel.Lemmas.Eq

namespace Brood
open Alloc

/-- What decides the identifiers issued: generation and in-use bit per slot, and the free queue. -/
structure AAbs where
  gens : List (Nat × Bool)
  free : List Nat
deriving DecidableEq, Repr

def Alloc.abs (a : Alloc) : AAbs := ⟨a.slots.map (fun s => (s.gen, s.loc.isSome)), a.free⟩

namespace AAbs

def genAt (k : AAbs) (i : Nat) : Nat := (k.gens.getD i (0, false)).1

/-- `Allocator::allocate` on the abstraction. -/
def allocate (k : AAbs) : AAbs × Ident :=
  match k.free with
  | i :: rest => (⟨k.gens.set i (k.genAt i + 1, true), rest⟩, ⟨i, k.genAt i + 1⟩)
  | [] => (⟨k.gens ++ [(0, true)], []⟩, ⟨k.gens.length, 0⟩)

def allocateN (k : AAbs) : Nat → AAbs × List Ident
  | 0 => (k, [])
  | n + 1 =>
    let (k1, id) := k.allocate
    let (k2, ids) := k1.allocateN n
    (k2, id :: ids)

def live (k : AAbs) (id : Ident) : Bool := k.gens[id.index]? == some (id.gen, true)

def release (k : AAbs) (id : Ident) : AAbs :=
  ⟨k.gens.set id.index (id.gen, false), k.free ++ [id.index]⟩

/-- `World::clear`: every slot in use is freed; the freed slots join the queue in ascending order. -/
def clear (k : AAbs) : AAbs :=
  ⟨k.gens.map (fun g => (g.1, false)),
   k.free ++ (List.range k.gens.length).filter (fun i => (k.gens.getD i (0, false)).2)⟩

end AAbs

/-- The abstraction after an operation, and the identifiers the operation issues. -/
def opAbs (k : AAbs) : Op → AAbs × List Ident
  | .insert _ _ => let (k', id) := k.allocate; (k', [id])
  | .extend _ rows => k.allocateN rows.length
  | .remove id => (if k.live id then k.release id else k, [])
  | .clear _ => (k.clear, [])
  | _ => (k, [])

/-- The identifiers an operation returns to its caller. -/
def issued (w : World) : Op → List Ident
  | .insert shape vals => match w.insert shape vals with | .ok (_, id) => [id] | .ub _ => []
  | .extend shape rows => match w.extend shape rows with | .ok (_, ids) => ids | .ub _ => []
  | _ => []

/-! ### the primitives on the abstraction -/

theorem abs_genAt {a : Alloc} {i : Nat} {s : Slot} (h : a.slots[i]? = some s) : a.abs.genAt i = s.gen := by
  simp [Alloc.abs, AAbs.genAt, List.getD, List.getElem?_map, h]

theorem allocate_abs {a a' : Alloc} {loc : Loc} {id : Ident} (e : a.allocate loc = .ok (a', id)) :
    a.abs.allocate = (a'.abs, id) := by
  rcases allocate_eq_ok e with ⟨hf, rfl, rfl⟩ | ⟨i, rest, s, hf, hs, rfl, rfl⟩
  · simp [AAbs.allocate, Alloc.abs, hf]
  · simp only [AAbs.allocate, show a.abs.free = i :: rest from hf, abs_genAt hs]
    simp [Alloc.abs, List.map_set]

theorem allocateBatch_abs {h n : Nat} {a a' : Alloc} {start : Nat} {ids : List Ident}
    (e : a.allocateBatch h start n = .ok (a', ids)) : a.abs.allocateN n = (a'.abs, ids) := by
  induction n generalizing a start ids with
  | zero =>
    cases e
    rfl
  | succ n ih =>
    obtain ⟨a1, id, ids', h1, h2, rfl⟩ := allocateBatch_succ_eq_ok e
    simp only [AAbs.allocateN, allocate_abs h1, ih h2]

theorem live_abs (a : Alloc) (id : Ident) : a.abs.live id = (a.get id).isSome := by
  unfold AAbs.live Alloc.get Alloc.abs
  rw [List.getElem?_map]
  cases a.slots[id.index]? with
  | none => rfl
  | some s =>
    obtain ⟨g, ol⟩ := s
    by_cases hg : g = id.gen
    · cases ol <;> simp [hg]
    · simp [hg]

theorem setLoc_abs {a a' : Alloc} {id : Ident} {loc : Loc} (hl : Live a id)
    (e : a.setLoc id loc = .ok a') : a'.abs = a.abs := by
  obtain ⟨l, hs⟩ := hl.slot
  obtain ⟨p, hf⟩ := setLoc_setSlot hs e
  unfold Alloc.abs
  rw [hf]
  refine congrArg (AAbs.mk · a.free) (List.ext_getElem? fun j => ?_)
  rw [List.getElem?_map, List.getElem?_map, p j]
  split
  next h =>
    rw [h, hs]
    rfl
  next => rfl

theorem spres_abs (k : AAbs) : SPres (fun a => a.abs = k) :=
  ⟨fun _ pa hl e => (setLoc_abs hl e).trans pa⟩

theorem release_abs {a a' : Alloc} {id : Ident} (hl : Live a id) (e : a.release id = .ok a') :
    a'.abs = a.abs.release id := by
  obtain ⟨l, hl⟩ := hl
  obtain ⟨s, hs, hg, -⟩ := get_eq_some.mp hl
  simp only [Alloc.release, hs, Out.ok.injEq] at e
  subst e
  simp [Alloc.abs, AAbs.release, List.map_set, hg]

/-! ### the operations on the abstraction -/

theorem remove_abs {w w' : World} {id : Ident} {drops : List Val} (hi : Inv w)
    (e : w.remove id = .ok (w', drops)) :
    w'.alloc.abs = if w.alloc.abs.live id then w.alloc.abs.release id else w.alloc.abs := by
  rw [live_abs]
  rcases remove_cases hi e with ⟨hg, rfl, -⟩ | ⟨a, r, w1, al, la, tk, hrel, rfl, -⟩
  · rw [hg]
    rfl
  · rw [la.get, release_abs tk.detached.live hrel, tk.spres (spres_abs _) hi.ainv rfl]
    rfl

theorem clear_abs {w w' : World} {order : List Mask} {drops : List Val} (hi : Inv w)
    (e : w.clear order = .ok (w', drops)) : w'.alloc.abs = w.alloc.abs.clear := by
  rw [clear_alloc_eq hi e]
  simp only [Alloc.abs, AAbs.clear, List.map_map, List.length_map, AAbs.mk.injEq, List.append_cancel_left_eq]
  refine ⟨rfl, List.filter_congr fun j _ => ?_⟩
  cases hj : w.alloc.slots[j]? <;> simp [List.getD, hj]

/-! ### every operation is a function of the abstraction -/

/-- **Every world operation transforms the abstraction, and issues identifiers, as a function of
the abstraction and the operation alone.** -/
theorem step_abs {w w' : World} (hi : Inv w) {op : Op} (e : step w op = .ok w') :
    opAbs w.alloc.abs op = (w'.alloc.abs, issued w op) := by
  cases op with
  | insert shape vals =>
    obtain ⟨nid, h⟩ := fstOut_eq_ok e
    obtain ⟨loc, ha⟩ := insert_alloc hi h
    simp only [opAbs, issued, allocate_abs ha, h]
  | extend shape rows =>
    obtain ⟨ids, h⟩ := fstOut_eq_ok e
    obtain ⟨hd, start, ha⟩ := extend_alloc hi h
    simp only [opAbs, issued, allocateBatch_abs ha, h]
  | remove id =>
    obtain ⟨d, h⟩ := fstOut_eq_ok e
    simp only [opAbs, issued, remove_abs hi h]
  | clear order =>
    obtain ⟨d, h⟩ := fstOut_eq_ok e
    simp only [opAbs, issued, clear_abs hi h]
  | add _ _ _ | del _ _ | write _ _ _ | reserve _ | shrink =>
    have : w'.alloc.abs = w.alloc.abs := step_spres (spres_abs _) hi rfl rfl e
    simp only [opAbs, issued, this]

/-- An operation with the observed table order of `clear` forgotten. -/
def Op.forget : Op → Op
  | .clear _ => .clear []
  | op => op

theorem opAbs_forget (k : AAbs) (op : Op) : opAbs k op.forget = opAbs k op := by
  cases op <;> rfl

/-- **Lock step, one operation.**  Two worlds with the same allocator abstraction that receive the
same operation — `clear` in whatever order each world's table happens to be visited — issue the
same identifiers and have the same abstraction afterwards. -/
theorem lockstep_step {a b a' b' : World} (ha : Inv a) (hb : Inv b) (h : a.alloc.abs = b.alloc.abs)
    {opa opb : Op} (hop : opa.forget = opb.forget) (ea : step a opa = .ok a') (eb : step b opb = .ok b') :
    a'.alloc.abs = b'.alloc.abs ∧ issued a opa = issued b opb := by
  have h1 := step_abs ha ea
  have h2 := step_abs hb eb
  rw [← opAbs_forget, hop, opAbs_forget, h, h2] at h1
  exact ⟨(congrArg Prod.fst h1).symm, (congrArg Prod.snd h1).symm⟩

/-! ### histories -/

/-- A history, collecting the identifiers issued. -/
def runIssued (w : World) : List Op → Out (World × List Ident)
  | [] => .ok (w, [])
  | op :: ops =>
    match step w op with
    | .ub e => .ub e
    | .ok w' =>
      match runIssued w' ops with
      | .ub e => .ub e
      | .ok (w'', ids) => .ok (w'', issued w op ++ ids)

theorem runIssued_cons_eq_ok {w w' : World} {op : Op} {ops : List Op} {ids : List Ident}
    (e : runIssued w (op :: ops) = .ok (w', ids)) :
    ∃ w1 ids', step w op = .ok w1 ∧ runIssued w1 ops = .ok (w', ids') ∧ ids = issued w op ++ ids' := by
  simp only [runIssued] at e
  split at e
  · cases e
  split at e
  · cases e
  cases e
  exact ⟨_, _, ‹_›, ‹_›, rfl⟩

theorem runIssued_run (ops : List Op) {w w' : World} {ids : List Ident}
    (e : runIssued w ops = .ok (w', ids)) : run w ops = .ok w' := by
  induction ops generalizing w ids with
  | nil =>
    cases e
    rfl
  | cons op ops ih =>
    obtain ⟨w1, _, h1, h2, -⟩ := runIssued_cons_eq_ok e
    simp only [run, h1, ih h2]

theorem runIssued_lockstep {R : World → World → Prop}
    (hstep : ∀ {opa opb : Op} {a b a' b' : World}, Inv a → Inv b → R a b → opa.forget = opb.forget →
      step a opa = .ok a' → step b opb = .ok b' → R a' b' ∧ issued a opa = issued b opb) :
    ∀ (opsa opsb : List Op), opsa.map Op.forget = opsb.map Op.forget →
    ∀ {a b a' b' : World} {ia ib : List Ident}, Inv a → Inv b → R a b →
      runIssued a opsa = .ok (a', ia) → runIssued b opsb = .ok (b', ib) → ia = ib ∧ R a' b' := by
  intro opsa
  induction opsa with
  | nil =>
    intro opsb hops a b a' b' ia ib _ _ r ea eb
    cases List.map_eq_nil_iff.mp hops.symm
    cases ea
    cases eb
    exact ⟨rfl, r⟩
  | cons opa opsa ih =>
    intro opsb hops a b a' b' ia ib ha hb r ea eb
    obtain ⟨opb, opsb, rfl, hop, hops⟩ := List.map_eq_cons_iff.mp hops.symm
    obtain ⟨a1, ia1, sa, ra, rfl⟩ := runIssued_cons_eq_ok ea
    obtain ⟨b1, ib1, sb, rb, rfl⟩ := runIssued_cons_eq_ok eb
    obtain ⟨r1, h1⟩ := hstep ha hb r hop.symm sa sb
    obtain ⟨h2, r2⟩ := ih opsb hops.symm (step_inv ha sa) (step_inv hb sb) r1 ra rb
    exact ⟨by rw [h1, h2], r2⟩

/-- **Lock step, every history.**  Two worlds with the same allocator abstraction that receive the
same operations issue the same identifiers, whatever their tables contain and in whatever order
their tables are visited. -/
theorem lockstep_run : ∀ (opsa opsb : List Op), opsa.map Op.forget = opsb.map Op.forget →
    ∀ {a b a' b' : World} {ia ib : List Ident}, Inv a → Inv b → a.alloc.abs = b.alloc.abs →
      runIssued a opsa = .ok (a', ia) → runIssued b opsb = .ok (b', ib) →
      ia = ib ∧ a'.alloc.abs = b'.alloc.abs :=
  runIssued_lockstep (R := fun a b => a.alloc.abs = b.alloc.abs) fun ha hb h => lockstep_step ha hb h

/-! ### worlds that compare equal -/

theorem slotEqv_abs {a b : World} {s t : Slot} (h : World.slotEqv a b s t = .ok true) :
    (s.gen, s.loc.isSome) = (t.gen, t.loc.isSome) := by
  unfold World.slotEqv at h
  split at h
  · cases h
  next hg =>
    rw [Decidable.of_not_not hg]
    split at h
    next hs ht => rw [hs, ht]
    next hs ht => rw [hs, ht, Option.isSome_some, Option.isSome_some]
    next => cases h

theorem eqWorld_abs {a b : World} (ha : Inv a) (hb : Inv b) (h : World.eqWorld a b = .ok true) :
    a.alloc.abs = b.alloc.abs := by
  obtain ⟨-, -, -, h4, h5, -⟩ := (eqWorld_true_iff ha hb).mp h
  obtain ⟨hlen, hpt⟩ := slotsEqv_true_iff.mp h4
  unfold Alloc.abs
  refine congr (congrArg AAbs.mk ?_) h5
  refine List.ext_getElem (by rw [List.length_map, List.length_map, hlen]) fun j h1 h2 => ?_
  rw [List.getElem_map, List.getElem_map]
  exact slotEqv_abs (hpt j _ _ (List.getElem?_eq_getElem _) (List.getElem?_eq_getElem _))

end Brood
