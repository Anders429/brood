/-
  The steps the operations are made of, each with what it does to the two halves of `Inv`:
  finding or creating a table (`archForEntity`, `archForMask`), appending a row for a fresh
  identifier, taking a row out (`takeRowAt`: swap-remove with the fix-up of the moved row's slot),
  and what follows a taken row — releasing its identifier (`remove`) or appending it to another
  table (`Entry::add`, `Entry::remove`).  Between `takeRowAt` and either continuation the
  identifier is live but stored nowhere: `Detached`.
-/
import BroodModel.Lemmas.Arch

namespace Brood
open Alloc
open Serde (ArchShape)

/-! ### a live identifier and its table -/

/-- `id` is live and stored in row `r` of table `a`: what `Inv` says about a live identifier and its
table, gathered (`Inv.liveAt`). -/
structure LiveAt (w : World) (id : Ident) (a : Arch) (r : Nat) : Prop where
  get : w.alloc.get id = some ⟨a.handle, r⟩
  find : w.findArch a.handle = some a
  mem : a ∈ w.archs
  row : a.ids[r]? = some id
  ok : ArchOk w a

theorem Inv.liveAt {w : World} (h : Inv w) {id : Ident} {l : Loc} (hg : w.alloc.get id = some l) :
    ∃ a, LiveAt w id a l.row ∧ a.handle = l.arch := by
  obtain ⟨a, hf, hrow⟩ := h.live_row hg
  obtain ⟨hm, hh⟩ := findArch_some hf
  exact ⟨a, ⟨by rw [hg, hh], by rw [hh]; exact hf, hm, hrow, h.archOk hm⟩, hh⟩

theorem Inv.liveAt_find {w : World} (h : Inv w) {id : Ident} {l : Loc} (hg : w.alloc.get id = some l)
    {a : Arch} (hf : w.findArch l.arch = some a) : LiveAt w id a l.row ∧ a.handle = l.arch := by
  obtain ⟨a', la, hh⟩ := h.liveAt hg
  cases (hh ▸ la.find).symm.trans hf
  exact ⟨la, hh⟩

theorem LiveAt.row_lt {w : World} {id : Ident} {a : Arch} {r : Nat} (la : LiveAt w id a r) :
    r < a.ids.length := (List.getElem?_eq_some_iff.mp la.row).1

theorem LiveAt.last {w : World} {id : Ident} {a : Arch} {r : Nat} (la : LiveAt w id a r) :
    ∃ last, a.ids[a.ids.length - 1]? = some last :=
  ⟨_, List.getElem?_eq_getElem (by have := la.row_lt; omega)⟩

/-! ### finding or creating a table -/

/-- `addTy`: the new table is also recorded under its entity type, as `archForEntity` does and
`archForMask` does not. -/
def withNewArch (w : World) (m : Mask) (addTy : Bool) : World :=
  { w with archs := w.archs ++ [Arch.new w.next m],
           foreign := w.foreign ++ [(m, w.next)],
           typeIds := if addTy then w.typeIds ++ [(m, w.next)] else w.typeIds,
           next := w.next + 1 }

theorem findArch_withNewArch {w : World} (t : Tables w) (m : Mask) (b : Bool) (h : Nat) :
    (withNewArch w m b).findArch h = if h = w.next then some (Arch.new w.next m) else w.findArch h := by
  unfold World.findArch withNewArch
  rw [List.find?_append]
  split
  · subst_vars
    have : w.archs.find? (fun a => a.handle == w.next) = none := t.find_next
    simp [this, Arch.new]
  · cases hf : w.archs.find? (fun a => a.handle == h) <;> simp [Arch.new, *]
    exact Ne.symm ‹_›

theorem findArch_withNewArch_old {w : World} (t : Tables w) (m : Mask) (b : Bool) {h : Nat} {a : Arch}
    (hf : w.findArch h = some a) : (withNewArch w m b).findArch h = some a := by
  rw [findArch_withNewArch t, if_neg (Nat.ne_of_lt (t.find_lt hf)), hf]

theorem Tables.withNewArch {w : World} (t : Tables w) {m : Mask} (hm : m.length = w.n)
    (hnew : ∀ a ∈ w.archs, a.mask ≠ m) (b : Bool) (hty : b = true → ∀ p ∈ w.typeIds, p.1 ≠ m) :
    Tables (withNewArch w m b) := by
  have hold : ∀ h a, w.findArch h = some a → (Brood.withNewArch w m b).findArch h = some a :=
    fun _ _ => findArch_withNewArch_old t m b
  have hnewOk : lookupOk (Brood.withNewArch w m b) (m, w.next) = true := by
    simp [lookupOk, findArch_withNewArch t, Arch.new]
  refine ⟨forall_mem_concat (fun a ha => ?_) ?_, nodup_map_concat t.masks_nodup hnew,
    nodup_map_concat t.handles_nodup fun a ha => Nat.ne_of_lt (t.shape a ha).2.1, ?_, ?_,
    forall_mem_concat (fun p hp => lookupOk_mono hold (t.foreign p hp)) hnewOk⟩
  · obtain ⟨s, hlt, hf⟩ := t.shape a ha
    exact ⟨s, Nat.lt_succ_of_lt hlt, List.mem_append_left _ hf⟩
  · exact ⟨ArchShape.new hm _, Nat.lt_succ_self _, List.mem_append_right _ (List.mem_singleton.mpr rfl)⟩
  · cases b
    · exact fun p hp => lookupOk_mono hold (t.typeIds p hp)
    · exact forall_mem_concat (fun p hp => lookupOk_mono hold (t.typeIds p hp)) hnewOk
  · cases b
    · exact t.typeIds_nodup
    · exact nodup_map_concat t.typeIds_nodup (hty rfl)

theorem idAt_withNewArch {w : World} (t : Tables w) (m : Mask) (b : Bool) (l : Loc) :
    (withNewArch w m b).idAt l = w.idAt l := by
  unfold World.idAt
  rw [findArch_withNewArch t]
  by_cases h : l.arch = w.next
  · rw [if_pos h, h, t.find_next]
    rfl
  · rw [if_neg h]

/-- `w1` is `w` after the table for component set `m` was found or created; `t` is that table. -/
structure ArchFor (w w1 : World) (m : Mask) (t : Arch) : Prop where
  tables : Tables w1
  alloc : w1.alloc = w.alloc
  len : w1.len = w.len
  n : w1.n = w.n
  res : w1.res = w.res
  idAt : ∀ l, w1.idAt l = w.idAt l
  archs : w1.archs = w.archs ∨ w1.archs = w.archs ++ [Arch.new w.next m]
  old : ∀ h a, w.findArch h = some a → w1.findArch h = some a
  find : w1.findArch t.handle = some t
  mask : t.mask = m

theorem ArchFor.of_typeIds {w : World} {tys : List (Mask × Nat)} (t : Tables { w with typeIds := tys })
    {m : Mask} {a : Arch} (hf : w.findArch a.handle = some a) (hm : a.mask = m) :
    ArchFor w { w with typeIds := tys } m a :=
  ⟨t, rfl, rfl, rfl, rfl, fun _ => rfl, .inl rfl, fun _ _ h => h, hf, hm⟩

theorem ArchFor.refl {w : World} (t : Tables w) {m : Mask} {a : Arch}
    (hf : w.findArch a.handle = some a) (hm : a.mask = m) : ArchFor w w m a :=
  .of_typeIds (tys := w.typeIds) t hf hm

theorem ArchFor.new {w : World} (t : Tables w) {m : Mask} (hm : m.length = w.n)
    (hnew : ∀ a ∈ w.archs, a.mask ≠ m) (b : Bool) (hty : b = true → ∀ p ∈ w.typeIds, p.1 ≠ m) :
    ArchFor w (withNewArch w m b) m (Arch.new w.next m) :=
  ⟨t.withNewArch hm hnew b hty, rfl, rfl, rfl, rfl, idAt_withNewArch t m b, .inr rfl,
    fun _ _ => findArch_withNewArch_old t m b, by rw [findArch_withNewArch t]; exact if_pos rfl, rfl⟩

theorem ArchFor.sum {w w1 : World} {m : Mask} {t : Arch} (af : ArchFor w w1 m t) :
    (w1.archs.map (·.ids.length)).sum = (w.archs.map (·.ids.length)).sum := by
  rcases af.archs with h | h <;> rw [h]
  simp [Arch.new]

theorem ArchFor.inv {w w1 : World} {m : Mask} {t : Arch} (af : ArchFor w w1 m t) (k : Linked w) :
    Inv w1 :=
  Inv.of_halves af.tables (k.congr af.alloc af.idAt (by rw [af.len, af.sum]; exact k.len))

theorem no_arch_of_foreign_none {w : World} (t : Tables w) {m : Mask} (h : lookupH w.foreign m = none) :
    ∀ a ∈ w.archs, a.mask ≠ m :=
  fun a ha => lookupH_none h _ (t.shape a ha).2.2

/-- `Archetypes::get_mut_or_insert_new` never fails and finds or creates the table of `m`. -/
theorem archForMask_spec {w : World} (t : Tables w) {m : Mask} (hm : m.length = w.n) :
    ∃ w1 a, w.archForMask m = .ok (w1, a.handle) ∧ ArchFor w w1 m a := by
  unfold World.archForMask
  cases hf : lookupH w.foreign m with
  | some h =>
    obtain ⟨a, hfa, hma⟩ := lookup_mask (t.foreign _ (lookupH_some hf))
    obtain rfl := (findArch_some hfa).2
    exact ⟨w, a, by simp only [hfa], .refl t hfa hma⟩
  | none => exact ⟨_, _, rfl, .new t hm (no_arch_of_foreign_none t hf) false (fun h => by cases h)⟩

/-- `Archetypes::get_mut_or_insert_new_for_entity` never fails and finds or creates the table of `m`. -/
theorem archForEntity_spec {w : World} (t : Tables w) {m : Mask} (hm : m.length = w.n) :
    ∃ w1 a, w.archForEntity m = .ok (w1, a.handle) ∧ ArchFor w w1 m a := by
  unfold World.archForEntity
  cases ht : lookupH w.typeIds m with
  | some h =>
    obtain ⟨a, hfa, hma⟩ := lookup_mask (t.typeIds _ (lookupH_some ht))
    obtain rfl := (findArch_some hfa).2
    exact ⟨w, a, by simp only [hfa], .refl t hfa hma⟩
  | none =>
    cases hf : lookupH w.foreign m with
    | some h =>
      obtain ⟨a, hfa, hma⟩ := lookup_mask (t.foreign _ (lookupH_some hf))
      have t' : Tables { w with typeIds := w.typeIds ++ [(m, h)] } :=
        ⟨t.shape, t.masks_nodup, t.handles_nodup, forall_mem_concat t.typeIds (t.foreign _ (lookupH_some hf)),
          nodup_map_concat t.typeIds_nodup (lookupH_none ht), t.foreign⟩
      obtain rfl := (findArch_some hfa).2
      exact ⟨_, a, by simp only [hfa], .of_typeIds t' hfa hma⟩
    | none =>
      exact ⟨_, _, rfl, .new t hm (no_arch_of_foreign_none t hf) true (fun _ => lookupH_none ht)⟩

/-! ### appending a row -/

theorem idAt_push {w : World} {a : Arch} (hf : w.findArch a.handle = some a) (cv : List Val) (id : Ident)
    (l : Loc) :
    (w.setArch (a.push cv id)).idAt l = if l = ⟨a.handle, a.ids.length⟩ then some id else w.idAt l := by
  rw [idAt_setArch (a.push cv id) hf]
  obtain ⟨h, q⟩ := l
  by_cases hh : h = a.handle
  · subst hh; simp [Arch.push, getElem?_append_singleton, idAt_of_find hf]
  · simp [Arch.push, hh]

/-- A row for `id` appended to table `a`, where the allocator `al` sends `id` to the new row and
otherwise agrees with `f`, the inverse of `idAt` — `f` is `alloc.get` when `id` is fresh, and
`alloc.get` without `id` when `id` is detached. -/
theorem pushed_inv {w : World} (t : Tables w) {a : Arch} (hf : w.findArch a.handle = some a)
    {cv : List Val} (hty : cv.map (·.ty) = a.mask.comps) {id : Ident} {f : Ident → Option Loc}
    (K : ∀ x l, f x = some l ↔ w.idAt l = some x) (hid : f id = none) {al : Alloc} (hal : AInv al)
    (hget : ∀ x, al.get x = if x = id then some ⟨a.handle, a.ids.length⟩ else f x) {n : Nat}
    (hn : n = (w.archs.map (·.ids.length)).sum + 1) :
    Inv { (w.setArch (a.push cv id)) with alloc := al, len := n } := by
  have sh := t.find_shape hf
  refine Inv.of_halves ((t.setArch (a' := a.push cv id) hf rfl (sh.push id hty)).of_eq rfl)
    ⟨hal, pinv_insert K hid ?_ hget (idAt_push hf cv id), ?_⟩
  · rw [idAt_of_find hf]; exact List.getElem?_eq_none (Nat.le_refl _)
  · have := sum_ids_setArch t.handles_nodup (a.push cv id) hf
    have hl := a.push_ids_length cv id
    show n = ((w.setArch (a.push cv id)).archs.map (·.ids.length)).sum
    omega

theorem push_inv {w : World} (hi : Inv w) {a : Arch} (hf : w.findArch a.handle = some a)
    {al : Alloc} {id : Ident} {cv : List Val} (hty : cv.map (·.ty) = a.mask.comps)
    (hal : w.alloc.allocate ⟨a.handle, a.ids.length⟩ = .ok (al, id)) :
    Inv { (w.setArch (a.push cv id)) with alloc := al, len := w.len + 1 } :=
  let ⟨hfresh, hget⟩ := get_allocate hi.ainv hal
  pushed_inv hi.tables hf hty hi.linked.get_iff hfresh (allocate_inv hi.ainv hal) hget
    (congrArg (· + 1) hi.len)

/-! ### taking a row out -/

/-- `id` is live but stored in no table; apart from that the halves of `Inv` hold. -/
structure Detached (w : World) (id : Ident) : Prop where
  tables : Tables w
  ainv : AInv w.alloc
  live : Live w.alloc id
  get_iff : ∀ x l, (if x = id then none else w.alloc.get x) = some l ↔ w.idAt l = some x
  len : w.len = (w.archs.map (·.ids.length)).sum + 1

theorem idAt_removed {w : World} {a : Arch} (hf : w.findArch a.handle = some a) {r : Nat}
    (hr : r < a.ids.length) (l : Loc) :
    (w.setArch (removedArch a r)).idAt l =
      if l = ⟨a.handle, a.ids.length - 1⟩ then none
      else if l = ⟨a.handle, r⟩ then a.ids[a.ids.length - 1]? else w.idAt l := by
  rw [idAt_setArch (removedArch a r) hf]
  obtain ⟨h, q⟩ := l
  by_cases hh : h = a.handle
  · subst hh; simp [removedArch, swapRemove_getElem? _ hr, idAt_of_find hf]
  · simp [removedArch, hh]

/-- The world `w1` right after `takeRowAt` took row `r` of table `a`, which held the live `id`. -/
structure Taken (w : World) (id : Ident) (a : Arch) (r : Nat) (w1 : World) : Prop where
  /-- `w1` is `w` with the row swap-removed, up to the allocator, which `alloc` below describes -/
  eq : w1 = { (w.setArch (removedArch a r)) with alloc := w1.alloc }
  detached : Detached w1 id
  /-- the identifier of the last row is re-pointed to row `r` (to where it is, if `r` is the last row) -/
  alloc : ∃ last l, w.alloc.get last = some l ∧ w.alloc.setLoc last ⟨a.handle, r⟩ = .ok w1.alloc

theorem Taken.n {w w1 : World} {id : Ident} {a : Arch} {r : Nat} (tk : Taken w id a r w1) : w1.n = w.n := by
  rw [tk.eq]; rfl

theorem Taken.res {w w1 : World} {id : Ident} {a : Arch} {r : Nat} (tk : Taken w id a r w1) :
    w1.res = w.res := by
  rw [tk.eq]; rfl

theorem takeRowAt_spec {w : World} (hi : Inv w) {id : Ident} {a : Arch} {r : Nat} (la : LiveAt w id a r) :
    ∃ w1, w.takeRowAt a.handle r = .ok (w1, a.row r, id) ∧ Taken w id a r w1 := by
  obtain ⟨last, hlast⟩ := la.last
  have hq : w.alloc.get last = some ⟨a.handle, a.ids.length - 1⟩ := hi.row_live la.mem hlast
  have hr := la.row_lt
  have hfa : w.findArch (removedArch a r).handle = some a := la.find
  -- the fix-up of the moved row's slot is `setLoc` also where it is skipped: `r` is then the last row
  obtain ⟨al, hfix, hset⟩ : ∃ al,
      (if r < a.ids.length - 1 then w.alloc.setLoc last ⟨a.handle, r⟩ else .ok w.alloc) = .ok al ∧
      w.alloc.setLoc last ⟨a.handle, r⟩ = .ok al := by
    split
    next =>
      obtain ⟨al, e⟩ := setLoc_ok ⟨_, hq⟩ ⟨a.handle, r⟩
      exact ⟨al, e, e⟩
    next => exact ⟨w.alloc, rfl, setLoc_self ((by omega : r = a.ids.length - 1) ▸ hq)⟩
  have hget := get_setLoc ⟨_, hq⟩ hset
  refine ⟨{ (w.setArch (removedArch a r)) with alloc := al }, ?_, rfl,
    ⟨(hi.tables.setArch hfa rfl (la.ok.shape.removed r)).of_eq rfl, setLoc_inv hi.ainv ⟨_, hq⟩ hset,
      setLoc_live ⟨_, hq⟩ hset ⟨_, la.get⟩, ?_, ?_⟩,
    last, _, hq, hset⟩
  · simp only [World.takeRowAt, getArch_eq_ok.mpr la.find, takeRow_spec la.ok.shape la.row,
      List.getLast?_eq_getElem?, hlast, setRow_eq_setLoc hq, hfix]
  · refine pinv_swapRemove hi.linked.get_iff la.get hq (fun x => by rw [hget]) fun l => ?_
    show (w.setArch (removedArch a r)).idAt l = _
    rw [idAt_removed la.find hr, hlast]
  · have := sum_ids_setArch hi.handles_nodup _ hfa
    have hl : (removedArch a r).ids.length = a.ids.length - 1 := swapRemove_length a.ids _
    have := hi.len
    show w.len = ((w.setArch (removedArch a r)).archs.map (·.ids.length)).sum + 1
    omega

theorem Detached.release {w : World} {id : Ident} (d : Detached w id) {al : Alloc}
    (e : w.alloc.release id = .ok al) : Inv { w with alloc := al, len := w.len - 1 } :=
  Inv.of_halves (d.tables.of_eq rfl)
    ⟨release_inv d.ainv d.live e, fun x l => by rw [get_release d.live e]; exact d.get_iff x l,
      by have := d.len; show w.len - 1 = (w.archs.map (·.ids.length)).sum; omega⟩

theorem Detached.archFor {w w1 : World} {id : Ident} (d : Detached w id) {m : Mask} {t : Arch}
    (af : ArchFor w w1 m t) : Detached w1 id :=
  ⟨af.tables, af.alloc ▸ d.ainv, af.alloc ▸ d.live, fun x l => by rw [af.alloc, af.idAt]; exact d.get_iff x l,
    by rw [af.len, af.sum]; exact d.len⟩

theorem Detached.place {w : World} {id : Ident} (d : Detached w id) {t : Arch}
    (hf : w.findArch t.handle = some t) {cv : List Val} (hty : cv.map (·.ty) = t.mask.comps) {al : Alloc}
    (e : w.alloc.setLoc id ⟨t.handle, t.ids.length⟩ = .ok al) :
    Inv { (w.setArch (t.push cv id)) with alloc := al } :=
  pushed_inv d.tables hf hty d.get_iff (if_pos rfl) (setLoc_inv d.ainv d.live e)
    (fun x => by rw [get_setLoc d.live e]; split <;> rfl) d.len

end Brood
