/-
  The machine allocator: generations are `u64` and `Slot::activate_unchecked` bumps them with
  `wrapping_add(1)` (src/entity/allocator/slot.rs:56), where `Alloc` keeps them in `Nat`.  Here
  `allocate` and `allocateBatch` are stated a second time, modulo `m` (`m = 2^64` in the code).
  `*_sim`: reducing every generation modulo `m` commutes with each primitive and with `get`, so the
  machine allocator is the image of the `Nat` one.  `allocateW_eq`, `*_genLe`: while every stored
  generation is below `m - 1` the two take the same step, and the bound `GenLe` grows by one per
  identifier issued (histories: `arunW_eq_arun`, Props/C02).  `wrap_reissues`: the bound is tight — a
  slot whose counter has gone round hands out the identifier it handed out first, and the stale copy
  resolves again (2^64 reuses of one slot are out of reach of any run; the statement is there so
  that the partial claim is not mistaken for the full one).
-/
import BroodModel.Lemmas.Alloc

namespace Brood
namespace Alloc

def Slot.wrap (m : Nat) (s : Slot) : Slot := ⟨s.gen % m, s.loc⟩

/-- Every generation reduced modulo `m`. -/
def wrap (m : Nat) (a : Alloc) : Alloc := ⟨a.slots.map (Slot.wrap m), a.free⟩

def _root_.Brood.Ident.wrap (m : Nat) (id : Ident) : Ident := ⟨id.index, id.gen % m⟩

/-- `Allocator::allocate` with `generation.wrapping_add(1)` on a counter of `m` values. -/
def allocateW (m : Nat) (a : Alloc) (loc : Loc) : Out (Alloc × Ident) :=
  match a.free with
  | i :: rest =>
    match a.slots[i]? with
    | some s => .ok (⟨a.slots.set i ⟨(s.gen + 1) % m, some loc⟩, rest⟩, ⟨i, (s.gen + 1) % m⟩)
    | none => .ub .oobSlot
  | [] => .ok (⟨a.slots ++ [⟨0, some loc⟩], []⟩, ⟨a.slots.length, 0⟩)

def allocateBatchW (m : Nat) (a : Alloc) (h start : Nat) : Nat → Out (Alloc × List Ident)
  | 0 => .ok (a, [])
  | n + 1 =>
    match allocateW m a ⟨h, start⟩ with
    | .ub w => .ub w
    | .ok (a1, id) =>
      match allocateBatchW m a1 h (start + 1) n with
      | .ub w => .ub w
      | .ok (a2, ids) => .ok (a2, id :: ids)

@[simp] theorem wrap_free (m : Nat) (a : Alloc) : (a.wrap m).free = a.free := rfl

@[simp] theorem wrap_slots_getElem? (m : Nat) (a : Alloc) (i : Nat) :
    (a.wrap m).slots[i]? = (a.slots[i]?).map (Slot.wrap m) := by
  simp [wrap]

theorem wrap_set (m : Nat) (slots : List Slot) (free : List Nat) (i : Nat) (s : Slot) :
    wrap m ⟨slots.set i s, free⟩ = ⟨((wrap m ⟨slots, free⟩).slots).set i (Slot.wrap m s), free⟩ := by
  simp [wrap, List.map_set]

/-! ### the machine allocator is the image of the `Nat` allocator -/

theorem allocateW_sim (m : Nat) {a a' : Alloc} {loc : Loc} {id : Ident}
    (e : a.allocate loc = .ok (a', id)) :
    allocateW m (a.wrap m) loc = .ok (a'.wrap m, id.wrap m) := by
  rcases allocate_eq_ok e with ⟨hf, rfl, rfl⟩ | ⟨i, rest, s, hf, hs, rfl, rfl⟩
  · simp [allocateW, hf, wrap, Slot.wrap, Ident.wrap]
  · simp [allocateW, hf, hs, wrap, Slot.wrap, Ident.wrap, List.map_set, Nat.add_mod]

theorem allocateW_sim_ub (m : Nat) {a : Alloc} {loc : Loc} {w : UB}
    (e : a.allocate loc = .ub w) : allocateW m (a.wrap m) loc = .ub w := by
  unfold allocate at e
  unfold allocateW
  split at e
  next i rest hf =>
    split at e
    next => cases e
    next hs =>
      cases e
      simp [hf, hs]
  next => cases e

theorem allocateBatchW_sim (m : Nat) {h n : Nat} {a a' : Alloc} {start : Nat} {ids : List Ident}
    (e : a.allocateBatch h start n = .ok (a', ids)) :
    allocateBatchW m (a.wrap m) h start n = .ok (a'.wrap m, ids.map (Ident.wrap m)) := by
  induction n generalizing a start ids with
  | zero =>
    cases e
    rfl
  | succ n ih =>
    obtain ⟨a1, id, ids', h1, h2, rfl⟩ := allocateBatch_succ_eq_ok e
    simp [allocateBatchW, allocateW_sim m h1, ih h2]

/-- `free_unchecked` never looks at a generation. -/
theorem release_sim (m : Nat) {a a' : Alloc} {id : Ident} (e : a.release id = .ok a') :
    (a.wrap m).release (id.wrap m) = .ok (a'.wrap m) := by
  obtain ⟨s, hs, rfl⟩ := release_eq_ok e
  simp [release, Ident.wrap, hs, wrap, Slot.wrap, List.map_set]

theorem setLoc_sim (m : Nat) {a a' : Alloc} {id : Ident} {loc : Loc} (e : a.setLoc id loc = .ok a') :
    (a.wrap m).setLoc (id.wrap m) loc = .ok (a'.wrap m) := by
  obtain ⟨s, hs, rfl⟩ := setLoc_eq_ok e
  simp [setLoc, Ident.wrap, hs, wrap, Slot.wrap, List.map_set]

/-- A lookup that succeeds on the `Nat` allocator succeeds on the machine allocator with the same
answer (the converse is what fails once a generation has wrapped: `wrap_reissues`). -/
theorem get_sim (m : Nat) {a : Alloc} {id : Ident} {l : Loc} (e : a.get id = some l) :
    (a.wrap m).get (id.wrap m) = some l := by
  obtain ⟨s, hs, hg, hl⟩ := get_eq_some.mp e
  unfold get
  simp [Ident.wrap, hs, Slot.wrap, hg, hl]

/-! ### below the bound the two allocators coincide -/

/-- Every generation stored is at most `k`. -/
def GenLe (a : Alloc) (k : Nat) : Prop := ∀ s ∈ a.slots, s.gen ≤ k

theorem GenLe.empty : GenLe Alloc.empty 0 := by simp [GenLe, Alloc.empty]

theorem GenLe.mono {a : Alloc} {k k' : Nat} (h : GenLe a k) (hk : k ≤ k') : GenLe a k' :=
  fun s hs => Nat.le_trans (h s hs) hk

theorem allocateW_eq (m : Nat) {a : Alloc} {k : Nat} (hb : GenLe a k) (hk : k + 1 < m) (loc : Loc) :
    allocateW m a loc = a.allocate loc := by
  unfold allocateW allocate
  cases hf : a.free with
  | nil => rfl
  | cons i rest =>
    cases hs : a.slots[i]? with
    | none => simp [hs]
    | some s =>
      have : s.gen ≤ k := hb s (List.mem_of_getElem? hs)
      have : (s.gen + 1) % m = s.gen + 1 := Nat.mod_eq_of_lt (by omega)
      simp [hs, this]

theorem SetSlot.genLe {a a' : Alloc} {i : Nat} {s' : Slot} (p : SetSlot a a' i s') {k : Nat}
    (hb : GenLe a k) (h : s'.gen ≤ k) : GenLe a' k := by
  intro s hs
  obtain ⟨j, hj⟩ := List.getElem?_of_mem hs
  by_cases hji : j = i
  · rw [hji, p.self] at hj
    cases hj
    exact h
  · rw [p.ne hji] at hj
    exact hb s (List.mem_of_getElem? hj)

theorem allocate_genLe {a a' : Alloc} {k : Nat} {loc : Loc} {id : Ident} (hb : GenLe a k)
    (e : a.allocate loc = .ok (a', id)) : GenLe a' (k + 1) := by
  obtain ⟨p, hold⟩ := allocate_setSlot e
  refine p.genLe (hb.mono (Nat.le_succ k)) ?_
  rcases hold with ⟨-, hg, -⟩ | ⟨s, hs, hg, -⟩
  · rw [hg]
    exact Nat.zero_le _
  · rw [hg]
    exact Nat.succ_le_succ (hb s (List.mem_of_getElem? hs))

theorem release_genLe {a a' : Alloc} {k : Nat} {id : Ident} (hb : GenLe a k)
    (e : a.release id = .ok a') : GenLe a' k := by
  obtain ⟨s, hs, -⟩ := release_eq_ok e
  exact (release_setSlot hs e).1.genLe hb (hb s (List.mem_of_getElem? hs))

theorem setLoc_genLe {a a' : Alloc} {k : Nat} {id : Ident} {loc : Loc} (hb : GenLe a k)
    (e : a.setLoc id loc = .ok a') : GenLe a' k := by
  obtain ⟨s, hs, -⟩ := setLoc_eq_ok e
  exact (setLoc_setSlot hs e).1.genLe hb (hb s (List.mem_of_getElem? hs))

theorem allocateBatchW_eq (m : Nat) {a : Alloc} {h start n k : Nat} (hb : GenLe a k)
    (hk : k + n < m) : allocateBatchW m a h start n = a.allocateBatch h start n := by
  induction n generalizing a k start with
  | zero => rfl
  | succ n ih =>
    simp only [allocateBatchW, allocateBatch, allocateW_eq m hb (by omega)]
    cases h1 : a.allocate ⟨h, start⟩ with
    | ub w => rfl
    | ok p =>
      simp only [ih (allocate_genLe hb h1) (by omega)]
      -- one `match`, compiled once for `allocateBatchW` and once for `allocateBatch`
      rfl

theorem allocateBatch_genLe {a a' : Alloc} {h start n k : Nat} {ids : List Ident} (hb : GenLe a k)
    (e : a.allocateBatch h start n = .ok (a', ids)) : GenLe a' (k + n) := by
  obtain ⟨hb', hn⟩ := allocateBatch_fold (Q := fun a iss => GenLe a (k + iss.length)) (iss := [])
    allocate_genLe n hb e
  rw [← hn]
  simpa using hb'

/-! ### the bound is tight -/

/-- A free slot whose generation is the last value of the counter is handed out with generation 0:
`⟨i, 0⟩`, the first identifier the slot ever had, is issued a second time, and a stale copy of it
resolves to the new entity. -/
theorem wrap_reissues (m : Nat) (hm : 0 < m) (i : Nat) (rest : List Nat) (slots : List Slot)
    (s : Slot) (hs : slots[i]? = some s) (hg : s.gen = m - 1) (loc : Loc) :
    ∃ a', allocateW m ⟨slots, i :: rest⟩ loc = .ok (a', ⟨i, 0⟩) ∧ a'.get ⟨i, 0⟩ = some loc := by
  have h0 : (s.gen + 1) % m = 0 := by
    rw [hg, Nat.sub_add_cancel hm, Nat.mod_self]
  refine ⟨⟨slots.set i ⟨0, some loc⟩, rest⟩, ?_, ?_⟩
  · simp [allocateW, hs, h0]
  · simp [get, (List.getElem?_eq_some_iff.mp hs).1]

end Alloc
end Brood
