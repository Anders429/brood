/-
  Component masks: `comps` (the components present, in registry order), `count`, `colIndex` (the
  "bit walk"), `set`, `ofShape` and the canonical ordering of a written entity.  Two facts carry
  the rest: the bit walk counts the present components below `c` (`colIndex_eq`), and `comps` of
  `m.set c b` splits at `c` (`comps_set`).
-/
import BroodModel.World
import BroodModel.Lemmas.Basic

namespace Brood

theorem has_eq (m : Mask) (c : Nat) : m.has c = m[c]?.getD false := by simp [Mask.has]

theorem has_lt {m : Mask} {c : Nat} (h : m.has c = true) : c < m.length := by
  rw [has_eq] at h
  cases hc : m[c]? with
  | none => simp [hc] at h
  | some b => exact (List.getElem?_eq_some_iff.mp hc).1

theorem has_set {m : Mask} {c c' : Nat} {b : Bool} (hc : c < m.length) :
    Mask.has (m.set c b) c' = if c' = c then b else Mask.has m c' := by
  simp only [has_eq, List.getElem?_set, hc]
  by_cases h : c = c' <;> simp [h, eq_comm]

theorem mem_comps {m : Mask} {c : Nat} : c ∈ m.comps ↔ m.has c = true := by
  simp only [Mask.comps, List.mem_filter, List.mem_range]
  exact ⟨fun h => h.2, fun h => ⟨has_lt h, h⟩⟩

theorem comps_nil : Mask.comps [] = [] := rfl

theorem comps_sorted (m : Mask) : m.comps.Pairwise (· < ·) :=
  List.pairwise_lt_range.filter _

theorem comps_nodup (m : Mask) : m.comps.Nodup :=
  (comps_sorted m).imp (by intro a b h; omega)

/-! ### the bit walk -/

theorem colIndex_eq (m : Mask) (c : Nat) :
    colIndex m c = ((List.range c).filter (fun i => m.has i)).length := by
  induction c with
  | zero => rfl
  | succ c ih =>
    unfold colIndex at ih ⊢
    rw [List.take_add_one, List.count_append, ih, List.range_succ, List.filter_append,
      List.length_append]
    cases h : m[c]? with
    | none => simp [has_eq, h]
    | some b => cases b <;> simp [has_eq, h]

theorem comps_length (m : Mask) : m.comps.length = m.count := by
  rw [Mask.comps, ← colIndex_eq, colIndex, List.take_length, Mask.count]

theorem colIndex_le_count (m : Mask) (c : Nat) : colIndex m c ≤ m.count :=
  (List.take_sublist c m).count_le true

theorem colIndex_set (m : Mask) (c : Nat) (b : Bool) : colIndex (m.set c b) c = colIndex m c :=
  congrArg (List.count true) (List.take_set_of_le (Nat.le_refl c))

/-! ### `set` -/

theorem set_cons_zero (b b' : Bool) (m : Mask) : (b :: m : Mask).set 0 b' = b' :: m := rfl

theorem comps_set {m : Mask} {c : Nat} (hc : c < m.length) (b : Bool) :
    Mask.comps (m.set c b) =
      (List.range c).filter (fun i => m.has i) ++ ((if b then [c] else []) ++
        (List.range' (c + 1) (m.length - (c + 1))).filter (fun i => m.has i)) := by
  have hr : List.range m.length = List.range c ++ ([c] ++ List.range' (c + 1) (m.length - (c + 1))) := by
    have h1 := @List.range'_append_1 0 c (m.length - (c + 1) + 1)
    rw [List.range'_succ, Nat.zero_add, show c + (m.length - (c + 1) + 1) = m.length by omega] at h1
    simp [List.range_eq_range', h1]
  unfold Mask.comps
  rw [List.length_set, hr, List.filter_append, List.filter_append]
  congr 1
  · exact List.filter_congr fun i hi => by
      rw [has_set hc, if_neg (by have := List.mem_range.mp hi; omega)]
  · congr 1
    · cases b <;> simp [has_set hc]
    · exact List.filter_congr fun i hi => by
        rw [has_set hc, if_neg (by have := (List.mem_range'_1.mp hi).1; omega)]

/-- `comps_set` at the value the mask already has. -/
theorem comps_split {m : Mask} {c : Nat} (hc : c < m.length) :
    m.comps =
      (List.range c).filter (fun i => m.has i) ++ ((if m.has c then [c] else []) ++
        (List.range' (c + 1) (m.length - (c + 1))).filter (fun i => m.has i)) := by
  have : m.set c (m.has c) = m := by
    rw [has_eq, List.getElem?_eq_getElem hc, Option.getD_some, List.set_getElem_self]
  rw [← comps_set hc (m.has c), this]

theorem colIndex_comps {m : Mask} {c : Nat} (h : m.has c = true) : m.comps[colIndex m c]? = some c := by
  rw [comps_split (has_lt h), colIndex_eq, h]
  simp

theorem colIndex_lt_count {m : Mask} {c : Nat} (h : m.has c = true) : colIndex m c < m.count := by
  rw [← comps_length, comps_split (has_lt h), colIndex_eq, h]; simp

theorem comps_set_true {m : Mask} {c : Nat} (hc : c < m.length) (h : m.has c = false) :
    Mask.comps (m.set c true) = World.insertAt m.comps (colIndex m c) c := by
  rw [comps_set hc, comps_split hc, colIndex_eq, h]; simp [World.insertAt]

theorem comps_set_false {m : Mask} {c : Nat} (h : m.has c = true) :
    Mask.comps (m.set c false) = m.comps.eraseIdx (colIndex m c) := by
  rw [comps_set (has_lt h), comps_split (has_lt h), colIndex_eq, h]
  simp [List.eraseIdx_append_of_length_le]

theorem count_set_true {m : Mask} {c : Nat} (hc : c < m.length) (h : m.has c = false) :
    Mask.count (m.set c true) = m.count + 1 := by
  rw [← comps_length, ← comps_length, comps_set hc, comps_split hc, h]; simp; omega

theorem count_set_false {m : Mask} {c : Nat} (h : m.has c = true) :
    Mask.count (m.set c false) + 1 = m.count := by
  rw [← comps_length, ← comps_length, comps_set (has_lt h), comps_split (has_lt h), h]; simp; omega

theorem map_eraseIdx {α β} (f : α → β) (l : List α) (k : Nat) :
    (l.eraseIdx k).map f = (l.map f).eraseIdx k := by
  simp [List.eraseIdx_eq_take_drop_succ, List.map_take, List.map_drop]

theorem map_insertAt {α β} (f : α → β) (l : List α) (k : Nat) (x : α) :
    (World.insertAt l k x).map f = World.insertAt (l.map f) k (f x) := by
  simp [World.insertAt, List.map_take, List.map_drop]

/-! ### `ofShape` and the canonical order of a written entity -/

theorem ofShape_length (n : Nat) (shape : List Nat) : (Mask.ofShape n shape).length = n := by
  simp [Mask.ofShape]

theorem ofShape_has {n : Nat} {shape : List Nat} {c : Nat} :
    (Mask.ofShape n shape).has c = (decide (c < n) && shape.contains c) := by
  unfold Mask.has Mask.ofShape
  by_cases h : c < n
  · simp [List.getD, h]
  · simp [List.getD, h]

theorem ofShape_comps (n : Nat) (shape : List Nat) :
    (Mask.ofShape n shape).comps = (List.range n).filter (fun c => shape.contains c) := by
  unfold Mask.comps
  rw [ofShape_length]
  apply List.filter_congr
  intro c hc
  rw [ofShape_has]
  simp [List.mem_range.mp hc]

theorem lookup_zip_ty {shape : List Nat} {vals : List Val} (h : vals.map (·.ty) = shape) (c : Nat) :
    ((List.zip shape vals).lookup c).map (·.ty) = if shape.contains c then some c else none := by
  induction shape generalizing vals with
  | nil => rfl
  | cons s ss ih =>
    cases vals with
    | nil => cases h
    | cons v vs =>
      obtain ⟨hv, hvs⟩ := List.cons.inj h
      rw [List.zip_cons_cons, List.lookup_cons, List.contains_cons]
      cases hcs : c == s with
      | true => simp [hv, beq_iff_eq.mp hcs]
      | false => exact ih hvs

/-- `Registry::canonical`: the written values re-ordered to registry order have exactly the types
of the table's columns. -/
theorem canonVals_tys {n : Nat} {shape : List Nat} {vals : List Val}
    (h : World.shapeOk n shape vals = true) :
    (World.canonVals n shape vals).map (·.ty) = (Mask.ofShape n shape).comps := by
  have hty : vals.map (·.ty) = shape := by
    unfold World.shapeOk at h
    simp only [Bool.and_eq_true, beq_iff_eq] at h
    exact h.2
  rw [ofShape_comps, World.canonVals, List.map_filterMap, ← List.filterMap_eq_filter]
  exact filterMap_congr' fun c _ => lookup_zip_ty hty c

end Brood
