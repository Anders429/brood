/-
  `Inv` in two halves, and how to establish it.

  `Tables w` is what `Inv` says about the tables and the lookups alone; `Linked w` says that the
  allocator and the tables are mutually inverse partial maps (`alloc.get : Ident ⇀ Loc`,
  `idAt : Loc ⇀ Ident`), that the free queue lists the inactive slots, and `len`.  An operation
  changes each map at one or two points, so `Inv` of its result comes from `Tables.setArch` /
  `Tables.of_eq` for the first half and from a lemma about point updates of a partial bijection
  (`pinv_insert`, `pinv_swapRemove`; `Linked.congr` where no identifier moves) for the second.
  Last, the list of stored identifiers (`World.stored`): under `Inv` it lists the live identifiers,
  no slot twice, and together with the free queue it partitions the slots.
-/
import BroodModel.Lemmas.World
import BroodModel.Lemmas.Mask

namespace Brood
open Alloc

namespace Serde

/-- Well-formedness of a table that does not depend on the rest of the world. -/
structure ArchShape (n : Nat) (a : Arch) : Prop where
  mask_len : a.mask.length = n
  cols_len : a.cols.length = a.mask.count
  cols_ok : ∀ (j : Nat) (c : List Val) (ty : Nat), a.cols[j]? = some c → a.mask.comps[j]? = some ty →
      c.length = a.ids.length ∧ ∀ v ∈ c, v.ty = ty

theorem ArchShape.comps_len {n : Nat} {a : Arch} (s : ArchShape n a) : a.mask.comps.length = a.cols.length := by
  rw [comps_length, s.cols_len]

theorem ArchShape.length_of_tys {n : Nat} {a : Arch} (s : ArchShape n a) {cv : List Val}
    (hty : cv.map (·.ty) = a.mask.comps) : cv.length = a.cols.length := by
  rw [← s.comps_len, ← hty, List.length_map]

theorem ArchShape.cols_all_len {n : Nat} {a : Arch} (s : ArchShape n a) :
    ∀ c ∈ a.cols, c.length = a.ids.length := by
  intro c hc
  obtain ⟨j, hj⟩ := List.getElem?_of_mem hc
  have : j < a.mask.comps.length := s.comps_len ▸ (List.getElem?_eq_some_iff.mp hj).1
  exact (s.cols_ok j c _ hj (List.getElem?_eq_getElem this)).1

end Serde
open Serde (ArchShape)

theorem ArchOk.shape {w : World} {a : Arch} (ok : ArchOk w a) : ArchShape w.n a :=
  ⟨ok.mask_len, ok.cols_len, ok.cols_ok⟩

/-! ### the two halves -/

/-- The identifier stored at a location. -/
def World.idAt (w : World) (l : Loc) : Option Ident :=
  match w.findArch l.arch with
  | some a => a.ids[l.row]?
  | none => none

structure Tables (w : World) : Prop where
  shape : ∀ a ∈ w.archs, ArchShape w.n a ∧ a.handle < w.next ∧ (a.mask, a.handle) ∈ w.foreign
  masks_nodup : (w.archs.map (·.mask)).Nodup
  handles_nodup : (w.archs.map (·.handle)).Nodup
  typeIds : ∀ p ∈ w.typeIds, lookupOk w p = true
  typeIds_nodup : (w.typeIds.map (·.1)).Nodup
  foreign : ∀ p ∈ w.foreign, lookupOk w p = true

structure Linked (w : World) : Prop where
  ainv : AInv w.alloc
  get_iff : ∀ id l, w.alloc.get id = some l ↔ w.idAt l = some id
  len : w.len = (w.archs.map (·.ids.length)).sum

theorem Tables.find_shape {w : World} (t : Tables w) {h : Nat} {a : Arch} (hf : w.findArch h = some a) :
    ArchShape w.n a :=
  (t.shape a (findArch_some hf).1).1

theorem Tables.find_lt {w : World} (t : Tables w) {h : Nat} {a : Arch} (hf : w.findArch h = some a) :
    h < w.next :=
  (findArch_some hf).2 ▸ (t.shape a (findArch_some hf).1).2.1

theorem Tables.find_next {w : World} (t : Tables w) : w.findArch w.next = none := by
  cases hf : w.findArch w.next with
  | none => rfl
  | some a => exact absurd (t.find_lt hf) (Nat.lt_irrefl _)

/-- A table is found by its component set, the way `World::eq` and `clone_from` look it up. -/
theorem Tables.cfHit_eq_some {w : World} (t : Tables w) {m : Mask} {a : Arch} :
    w.cfHit m = some a ↔ a ∈ w.archs ∧ a.mask = m := by
  unfold World.cfHit
  constructor
  · intro h
    cases hl : lookupH w.foreign m with
    | none => simp [hl] at h
    | some hd =>
      simp only [hl] at h
      obtain ⟨y, hfy, hym⟩ := lookup_mask (t.foreign _ (lookupH_some hl))
      rw [h] at hfy; cases hfy
      exact ⟨(findArch_some h).1, hym⟩
  · rintro ⟨ha, rfl⟩
    obtain ⟨hd, hl⟩ : ∃ hd, lookupH w.foreign a.mask = some hd :=
      Option.ne_none_iff_exists'.mp fun hn => lookupH_none hn _ (t.shape a ha).2.2 rfl
    obtain ⟨y, hfy, hym⟩ := lookup_mask (t.foreign _ (lookupH_some hl))
    rw [hl]
    exact hfy.trans (congrArg some (eq_of_nodup_map t.masks_nodup (findArch_some hfy).1 ha hym))

theorem idAt_eq_some {w : World} {l : Loc} {id : Ident} :
    w.idAt l = some id ↔ ∃ a, w.findArch l.arch = some a ∧ a.ids[l.row]? = some id := by
  unfold World.idAt
  cases w.findArch l.arch <;> simp

theorem idAt_of_find {w : World} {a : Arch} (hf : w.findArch a.handle = some a) (r : Nat) :
    w.idAt ⟨a.handle, r⟩ = a.ids[r]? := by
  simp [World.idAt, hf]

theorem Inv.tables {w : World} (h : Inv w) : Tables w :=
  ⟨fun _ ha => let ok := h.archOk ha; ⟨ok.shape, ok.handle_lt, ok.foreign⟩,
   h.masks_nodup, h.handles_nodup, h.typeIds, h.typeIds_nodup, h.foreign⟩

theorem Inv.linked {w : World} (h : Inv w) : Linked w := by
  refine ⟨h.ainv, fun id l => ⟨fun hg => idAt_eq_some.mpr (h.live_row hg), fun hs => ?_⟩, h.len⟩
  obtain ⟨a, hf, hr⟩ := idAt_eq_some.mp hs
  obtain ⟨ha, hh⟩ := findArch_some hf
  have := h.row_live ha hr
  rwa [hh] at this

theorem Inv.of_halves {w : World} (t : Tables w) (k : Linked w) : Inv w := by
  refine
    { free_nodup := k.ainv.nodup, free_inactive := ?_, slots := ?_, archs := ?_,
      masks_nodup := t.masks_nodup, handles_nodup := t.handles_nodup, typeIds := t.typeIds,
      typeIds_nodup := t.typeIds_nodup, foreign := t.foreign, len := k.len }
  · intro i hi
    obtain ⟨s, hs, hl⟩ := k.ainv.inactive i hi
    rw [hs, Option.map_some, hl]
  · intro i _
    apply slotOk_iff.mpr
    intro s hs
    refine ⟨k.ainv.listed i s hs, fun l hl => ?_⟩
    obtain ⟨a, hf, hr⟩ := idAt_eq_some.mp
      ((k.get_iff ⟨i, s.gen⟩ l).mp (get_eq_some.mpr ⟨s, hs, rfl, hl⟩))
    refine ⟨a, hf, hr, fun hi => ?_⟩
    obtain ⟨s', hs', hl'⟩ := k.ainv.inactive i hi
    rw [hs] at hs'; cases hs'; rw [hl'] at hl; cases hl
  · intro a ha
    obtain ⟨sh, hlt, hfo⟩ := t.shape a ha
    apply archOk_iff.mpr
    refine ⟨sh.mask_len, hlt, sh.cols_len, sh.cols_all_len, sh.cols_ok, fun r id hr => ?_, hfo⟩
    obtain ⟨s, hs, hg, hl⟩ := get_eq_some.mp ((k.get_iff id ⟨a.handle, r⟩).mpr
      (idAt_eq_some.mpr ⟨a, findArch_of_mem t.handles_nodup ha, hr⟩))
    rw [hs, ← hg, ← hl]

/-! ### the first half under changes of the world -/

/-- `Tables` reads only these five fields. -/
theorem Tables.of_eq {w w' : World} (t : Tables w)
    (h : (w'.n, w'.next, w'.archs, w'.typeIds, w'.foreign) =
      (w.n, w.next, w.archs, w.typeIds, w.foreign)) : Tables w' := by
  cases w; cases w'
  obtain ⟨rfl, rfl, rfl, rfl, rfl⟩ := h
  exact ⟨t.1, t.2, t.3, t.4, t.5, t.6⟩

theorem Tables.mapArchs {w : World} (t : Tables w) (g : Arch → Arch)
    (hh : ∀ a ∈ w.archs, (g a).handle = a.handle) (hm : ∀ a ∈ w.archs, (g a).mask = a.mask)
    (hs : ∀ a ∈ w.archs, ArchShape w.n (g a)) : Tables { w with archs := w.archs.map g } := by
  have hn : ((w.archs.map g).map (·.handle)).Nodup := by
    rw [List.map_map, List.map_congr_left (g := (·.handle)) hh]; exact t.handles_nodup
  have hlook : ∀ p, lookupOk w p = true → lookupOk ({ w with archs := w.archs.map g } : World) p = true := by
    intro p hp
    obtain ⟨a, hf, hma⟩ := lookup_mask hp
    obtain ⟨ha, hp2⟩ := findArch_some hf
    refine lookupOk_of_find (a := g a) ?_ ((hm a ha).trans hma)
    rw [← hp2, ← hh a ha]
    exact findArch_of_mem (w := { w with archs := w.archs.map g }) hn (List.mem_map_of_mem ha)
  refine ⟨fun x hx => ?_, ?_, hn, fun p hp => hlook p (t.typeIds p hp), t.typeIds_nodup,
    fun p hp => hlook p (t.foreign p hp)⟩
  · obtain ⟨a, ha, rfl⟩ := List.mem_map.mp hx
    exact ⟨hs a ha, hh a ha ▸ (t.shape a ha).2.1, hm a ha ▸ hh a ha ▸ (t.shape a ha).2.2⟩
  · show ((w.archs.map g).map (·.mask)).Nodup
    rw [List.map_map, List.map_congr_left (g := (·.mask)) hm]; exact t.masks_nodup

theorem Tables.setArch {w : World} (t : Tables w) {a a' : Arch} (hf : w.findArch a'.handle = some a)
    (hm : a'.mask = a.mask) (sh : ArchShape w.n a') : Tables (w.setArch a') := by
  -- handles are distinct, so a table of `w` with the handle of `a'` is `a`
  have huniq : ∀ b ∈ w.archs, (b.handle == a'.handle) = true → b = a := fun b hb e =>
    Option.some.inj ((findArch_of_mem t.handles_nodup hb).symm.trans (beq_iff_eq.mp e ▸ hf))
  refine t.mapArchs _ (fun b hb => ?_) (fun b hb => ?_) (fun b hb => ?_)
  · split
    next e => exact (beq_iff_eq.mp e).symm
    next => rfl
  · split
    next e => rw [huniq b hb e]; exact hm
    next => rfl
  · split
    next => exact sh
    next => exact (t.shape b hb).1

/-! ### the second half: no identifier moves, or point updates -/

theorem Linked.congr {w w' : World} (k : Linked w) (ha : w'.alloc = w.alloc)
    (hi : ∀ l, w'.idAt l = w.idAt l)
    (hl : w'.len = (w'.archs.map (·.ids.length)).sum) : Linked w' :=
  ⟨ha ▸ k.ainv, fun id l => by rw [ha, hi]; exact k.get_iff id l, hl⟩

theorem sum_ids_setArch {w : World} (hn : (w.archs.map (·.handle)).Nodup) {a : Arch} (a' : Arch)
    (hf : w.findArch a'.handle = some a) :
    ((w.setArch a').archs.map (·.ids.length)).sum + a.ids.length =
      (w.archs.map (·.ids.length)).sum + a'.ids.length :=
  replaceH_sum (·.ids.length) hn (findArch_some hf).1 (findArch_some hf).2.symm

theorem idAt_setArch {w : World} {a : Arch} (a' : Arch) (hf : w.findArch a'.handle = some a) (l : Loc) :
    (w.setArch a').idAt l = if l.arch = a'.handle then a'.ids[l.row]? else w.idAt l := by
  unfold World.idAt
  by_cases h : l.arch = a'.handle
  · rw [h, findArch_setArch_same w a' hf]; simp
  · rw [findArch_setArch_ne w a' h]; simp [h]

/-- A new pair joins a partial bijection. -/
theorem pinv_insert {α β} [DecidableEq α] [DecidableEq β] {f f' : α → Option β} {g g' : β → Option α}
    (K : ∀ x y, f x = some y ↔ g y = some x) {a : α} {b : β} (ha : f a = none) (hb : g b = none)
    (hf : ∀ x, f' x = if x = a then some b else f x)
    (hg : ∀ y, g' y = if y = b then some a else g y) :
    ∀ x y, f' x = some y ↔ g' y = some x := by
  intro x y
  rw [hf, hg]
  grind

/-- Swap-remove on a partial bijection: the pair `(a, p)` leaves, and the pair `(z, q)` (`q` the
last place; possibly the same pair) moves to `p`.  `hz` is what keeps the result a bijection: `z`
held `q` and nothing else, so `q` may be vacated.  When `a = z` (the row removed was the last one)
the first branch of each update wins and the pair simply leaves. -/
theorem pinv_swapRemove {α β} [DecidableEq α] [DecidableEq β] {f f' : α → Option β}
    {g g' : β → Option α} (K : ∀ x y, f x = some y ↔ g y = some x) {a z : α} {p q : β}
    (ha : f a = some p) (hz : f z = some q)
    (hf : ∀ x, f' x = if x = a then none else if x = z then some p else f x)
    (hg : ∀ y, g' y = if y = q then none else if y = p then some z else g y) :
    ∀ x y, f' x = some y ↔ g' y = some x := by
  intro x y
  rw [hf, hg]
  grind

/-! ### the stored identifiers -/

/-- All identifiers stored in the world, table by table, row by row. -/
def World.stored (w : World) : List Ident := w.archs.flatMap (·.ids)

theorem mem_stored {w : World} {y : Ident} (h : y ∈ w.stored) :
    ∃ a ∈ w.archs, ∃ r : Nat, a.ids[r]? = some y := by
  obtain ⟨a, ha, hy⟩ := List.mem_flatMap.mp h
  obtain ⟨r, hr⟩ := List.getElem?_of_mem hy
  exact ⟨a, ha, r, hr⟩

theorem Inv.mem_stored_iff {w : World} (hi : Inv w) {y : Ident} : y ∈ w.stored ↔ Live w.alloc y := by
  constructor
  · intro h
    obtain ⟨a, ha, r, hr⟩ := mem_stored h
    exact ⟨_, hi.row_live ha hr⟩
  · rintro ⟨l, hl⟩
    obtain ⟨a, hf, hr⟩ := hi.live_row hl
    exact List.mem_flatMap.mpr ⟨a, (findArch_some hf).1, List.mem_of_getElem? hr⟩

theorem Inv.stored_pairwise {w : World} (hi : Inv w) :
    w.stored.Pairwise (fun x y => x.index ≠ y.index) := by
  unfold World.stored
  rw [List.pairwise_flatMap]
  refine ⟨fun a ha => List.pairwise_iff_getElem.mpr fun i j hi' hj hij e => ?_, ?_⟩
  · exact Nat.ne_of_lt hij
      (hi.rows_index_injective ha ha (List.getElem?_eq_getElem hi') (List.getElem?_eq_getElem hj) e).2
  · have hh : w.archs.Pairwise (fun a b => a.handle ≠ b.handle) := List.pairwise_map.mp hi.handles_nodup
    refine hh.imp_of_mem fun {a b} ha hb hab x hx y hy e => ?_
    obtain ⟨r, hr⟩ := List.getElem?_of_mem hx
    obtain ⟨q, hq⟩ := List.getElem?_of_mem hy
    exact hab (hi.rows_index_injective ha hb hr hq e).1

theorem free_stored_partition {w : World} (hi : Inv w) :
    (w.alloc.free ++ w.stored.map (·.index)).Nodup ∧
      ∀ i, i ∈ w.alloc.free ++ w.stored.map (·.index) ↔ i < w.alloc.slots.length := by
  constructor
  · refine List.nodup_append.mpr ⟨hi.free_nodup, List.pairwise_map.mpr hi.stored_pairwise, ?_⟩
    rintro i hf _ hs rfl
    obtain ⟨id, hid, rfl⟩ := List.mem_map.mp hs
    exact (hi.mem_stored_iff.mp hid).not_free hi.ainv hf
  · intro i
    rw [List.mem_append, List.mem_map]
    constructor
    · rintro (hf | ⟨id, hid, rfl⟩)
      · obtain ⟨s, hs, _⟩ := hi.ainv.inactive _ hf
        exact (List.getElem?_eq_some_iff.mp hs).1
      · obtain ⟨l, hl⟩ := (hi.mem_stored_iff.mp hid).slot
        exact (List.getElem?_eq_some_iff.mp hl).1
    · intro hil
      have hs := List.getElem?_eq_getElem hil
      cases hl : w.alloc.slots[i].loc with
      | none => exact .inl (hi.ainv.listed i _ hs hl)
      | some l =>
        exact .inr ⟨⟨i, w.alloc.slots[i].gen⟩,
          hi.mem_stored_iff.mpr ⟨l, get_eq_some.mpr ⟨_, hs, rfl, hl⟩⟩, rfl⟩

end Brood
