/-
  `par_query` against `query`: whatever order the archetype table is traversed in and however
  rayon splits each archetype's rows, the rows handed out are a permutation of the sequential
  query's rows (each matching entity exactly once).
-/
import BroodModel.Lemmas.QueryL
import BroodModel.Par

namespace Brood
open Serde (ArchShape)

/-- The rows of one archetype as a parallel iteration hands them out: the sequential rows cut by
an arbitrary split tree, every leaf folded, the partial results concatenated. -/
def parArchRows (t : Split) (a : Arch) (vs : List View) : Out (List (List Cell)) :=
  match archRows a vs a.ids.length with
  | .ok rows => .ok (t.collect rows)
  | .ub e => .ub e

/-- `World::par_query` over the archetypes in the order `visit`, each split by `trees`. -/
def parQueryArchs (vs : List View) (f : Filter) (trees : Arch → Split) : List Arch → Out (List (List Cell))
  | [] => .ok []
  | a :: as =>
    match parQueryArchs vs f trees as with
    | .ub e => .ub e
    | .ok rest =>
      if viewsFilter a.mask vs && f.eval a.mask then
        match parArchRows (trees a) a vs with
        | .ub e => .ub e
        | .ok rows => .ok (rows ++ rest)
      else .ok rest

theorem collect_eq {α} (t : Split) (xs : List α) : t.collect xs = xs := by
  unfold Split.collect
  induction t generalizing xs with
  | leaf => exact List.append_nil xs
  | node i l r ihl ihr => rw [Split.pieces, List.flatten_append, ihl, ihr, List.take_append_drop]

theorem pieces_length {α β} (t : Split) (xs : List α) (ys : List β) :
    (t.pieces xs).length = (t.pieces ys).length := by
  induction t generalizing xs ys with
  | leaf => rfl
  | node i l r ihl ihr =>
    rw [Split.pieces, Split.pieces, List.length_append, List.length_append,
      ihl (xs.take i) (ys.take i), ihr (xs.drop i) (ys.drop i)]

theorem pieces_zip {α β} (t : Split) (xs : List α) (ys : List β) :
    List.zipWith List.zip (t.pieces xs) (t.pieces ys) = t.pieces (xs.zip ys) := by
  induction t generalizing xs ys with
  | leaf => rfl
  | node i l r ihl ihr =>
    simp only [Split.pieces]
    rw [List.zipWith_append (pieces_length l _ _), ihl, ihr, List.zip, List.take_zipWith, List.drop_zipWith]

theorem zipPieces_eq {α β} (t : Split) (xs : List α) (ys : List β) : zipPieces t xs ys = List.zip xs ys := by
  rw [zipPieces, pieces_zip]
  exact collect_eq t _

theorem parArchRows_eq (t : Split) (a : Arch) (vs : List View) :
    parArchRows t a vs = archRows a vs a.ids.length := by
  unfold parArchRows
  cases archRows a vs a.ids.length with
  | ub e => rfl
  | ok rows => exact congrArg Out.ok (collect_eq t rows)

theorem parQueryArchs_eq_query (vs : List View) (f : Filter) (trees : Arch → Split) (l : List Arch) :
    parQueryArchs vs f trees l = queryArchs vs f l := by
  induction l with
  | nil => rfl
  | cons a as ih =>
    rw [parQueryArchs, queryArchs, ih, parArchRows_eq]
    rfl

theorem par_query_perm {w : World} (hi : Inv w) (vs : List View) (f : Filter) (trees : Arch → Split)
    {visit : List Arch} (hp : visit.Perm w.archs) :
    ∃ rows, parQueryArchs vs f trees visit = .ok rows ∧
      rows.Perm (Spec.query w.n ⟨w.ents, w.res, []⟩ vs f) := by
  rw [parQueryArchs_eq_query]
  have hok : ∀ a ∈ visit, ArchShape w.n a := fun a ha => (hi.archOk (hp.mem_iff.mp ha)).shape
  refine ⟨_, queryArchs_eq vs f visit hok, ?_⟩
  unfold Spec.query World.ents
  exact ((hp.flatMap_right Arch.ents).filter _).map _

end Brood
