/-
  The run-time half of scheduling (src/system/schedule/stage.rs).  `Claim::try_merge` (the
  generated table) fails on a conflict and otherwise yields the exact join (`conflicts_sup`), so
  the stage's claim map holds, per archetype, the exact join of the claims of the running tasks
  that match it (`MapExact`), and the component claims of a next-stage task are accepted exactly
  when they conflict with no running task on any archetype both match.  The task starts early if
  its resource claims also merge into the stage's resource vector: the join of the resource claims
  of the running tasks and of the add-ons tried so far.  Whatever starts may run together with
  everything running (`addOns_safe`).  Last, the static check as a comparison of claims
  (`claimsConflict_eq`): the tasks of a group the stager formed may run together on every set of
  archetypes (`stages_pairwise`), so every phase is conflict free (`runStage_phase_safe`).
-/
import BroodModel.Lemmas.Sched

namespace Brood
open Static Generated

/-! ### claims -/

theorem conflicts_none_left (x : Cl) : Cl.conflicts .none x = false := by cases x <;> rfl

theorem conflicts_none_right (x : Cl) : x.conflicts .none = false := by cases x <;> rfl

theorem conflicts_comm (a b : Cl) : a.conflicts b = b.conflicts a := by cases a <;> cases b <;> rfl

theorem conflicts_eq_false {a b : Cl} :
    a.conflicts b = false ↔ (a = .mutable → b = .none) ∧ (b = .mutable → a = .none) := by
  cases a <;> cases b <;> decide

/-- The stronger of two claims. -/
def Static.Cl.sup : Cl → Cl → Cl
  | .mutable, _ | _, .mutable => .mutable
  | .none, b => b
  | a, _ => a

/-- `Claim::try_merge` (the generated table): it fails exactly on a write/any overlap and
otherwise remembers the stronger claim. -/
theorem tryMergeCl_eq (a b : Cl) :
    tryMergeCl claimTryMerge a b = if a.conflicts b then none else some (a.sup b) := by
  cases a <;> cases b <;> rfl

theorem tryMergeCl_eq_some {a b c : Cl} :
    tryMergeCl claimTryMerge a b = some c ↔ a.conflicts b = false ∧ a.sup b = c := by
  rw [tryMergeCl_eq]
  cases a.conflicts b <;> simp

/-- The stronger claim is the exact join: it conflicts with what either claim conflicts with. -/
theorem conflicts_sup (x a b : Cl) : x.conflicts (a.sup b) = (x.conflicts a || x.conflicts b) := by
  cases x <;> cases a <;> cases b <;> rfl

theorem sup_eq_mutable {a b : Cl} : a.sup b = .mutable ↔ a = .mutable ∨ b = .mutable := by
  cases a <;> cases b <;> decide

/-- Pointwise: two claim vectors do not conflict anywhere. -/
def vecOk (a b : List Cl) : Bool := (List.zipWith Cl.conflicts a b).all (fun x => !x)

theorem vecOk_cons (x y : Cl) (xs ys : List Cl) :
    vecOk (x :: xs) (y :: ys) = (!x.conflicts y && vecOk xs ys) := rfl

/-- `vecOk` by index.  Positions beyond either vector read as `Cl.none`, which conflicts with
nothing, so the lengths do not matter. -/
theorem vecOk_iff (a b : List Cl) :
    vecOk a b = true ↔ ∀ i, (a.getD i .none).conflicts (b.getD i .none) = false := by
  induction a generalizing b with
  | nil => exact ⟨fun _ _ => conflicts_none_left _, fun _ => rfl⟩
  | cons x xs ih =>
    cases b with
    | nil => exact ⟨fun _ _ => conflicts_none_right _, fun _ => rfl⟩
    | cons y ys =>
      rw [vecOk_cons, Bool.and_eq_true, ih, Bool.not_eq_true']
      exact ⟨fun h i => match i with | 0 => h.1 | i + 1 => h.2 i, fun h => ⟨h 0, fun i => h (i + 1)⟩⟩

theorem vecOk_comm (a b : List Cl) : vecOk a b = vecOk b a := by
  rw [Bool.eq_iff_iff, vecOk_iff, vecOk_iff]
  simp only [conflicts_comm]

theorem vecOk_replicate_none (x : List Cl) (k : Nat) : vecOk x (List.replicate k Cl.none) = true := by
  rw [vecOk_iff]
  intro i
  have : (List.replicate k Cl.none).getD i .none = .none := by
    rw [List.getD_eq_getElem?_getD, List.getElem?_replicate]
    split <;> rfl
  rw [this, conflicts_none_right]

theorem vecOk_of_pointwise (f g : Nat → Cl) (n : Nat) (h : ∀ c, (f c).conflicts (g c) = false) :
    vecOk ((List.range n).map f) ((List.range n).map g) = true := by
  rw [vecOk_iff]
  intro i
  by_cases hi : i < n
  · simp [hi, h]
  · simp [hi, conflicts_none_left]

/-- `Claims::try_merge` on vectors of equal length succeeds iff nothing conflicts, and then yields
the exact join: a probe is compatible with the result iff it is with both arguments. -/
theorem tryMergeVec_spec (a b : List Cl) (hl : a.length = b.length) :
    (tryMergeVec claimTryMerge a b).isSome = vecOk a b ∧
    ∀ c, tryMergeVec claimTryMerge a b = some c →
      c.length = a.length ∧ ∀ x, vecOk x c = (vecOk x a && vecOk x b) := by
  induction a generalizing b with
  | nil =>
    obtain rfl := List.length_eq_zero_iff.mp hl.symm
    refine ⟨rfl, fun c hc => ?_⟩
    cases hc
    exact ⟨rfl, fun x => by cases x <;> rfl⟩
  | cons y ys ih =>
    cases b with
    | nil => cases hl
    | cons z zs =>
      obtain ⟨ih1, ih2⟩ := ih zs (Nat.succ.inj hl)
      rw [tryMergeVec, tryMergeCl_eq, vecOk_cons, ← ih1]
      cases hyz : y.conflicts z with
      | true => exact ⟨rfl, fun c hc => nomatch hc⟩
      | false =>
        cases h2 : tryMergeVec claimTryMerge ys zs with
        | none => exact ⟨rfl, fun c hc => nomatch hc⟩
        | some ms =>
          refine ⟨rfl, fun c hc => ?_⟩
          cases hc
          obtain ⟨hlen, hx⟩ := ih2 ms h2
          refine ⟨congrArg Nat.succ hlen, fun x => ?_⟩
          cases x with
          | nil => rfl
          | cons w ws =>
            rw [vecOk_cons, vecOk_cons, vecOk_cons, hx, conflicts_sup, Bool.not_or]
            ac_rfl

theorem claimVec_length (n : Nat) (t : Task) : (t.claimVec n).length = n := by simp [Task.claimVec]

theorem resVec_length (n : Nat) (t : Task) : (t.resVec n).length = n := by simp [Task.resVec]

/-! ### exact joins -/

/-- Merging a claim vector into a slot: one of the stage's claim map, which holds nothing yet or
the claims merged so far, or the stage's resource vector, which always holds something. -/
def mergeInto (a : List Cl) : Option (List Cl) → Option (List Cl)
  | none => some a
  | some old => tryMergeVec claimTryMerge a old

/-- The slot `o` holds the exact join of the claim vectors `l`: an empty slot stands for no vector
at all, and a probe is compatible with the vector held iff it is compatible with every member. -/
def IsJoin (n : Nat) (o : Option (List Cl)) (l : List (List Cl)) : Prop :=
  match o with
  | none => l = []
  | some v => v.length = n ∧ ∀ x : List Cl, x.length = n → vecOk x v = l.all (vecOk x)

theorem IsJoin.nil (n : Nat) : IsJoin n (some (List.replicate n .none)) [] :=
  ⟨List.length_replicate, fun x _ => vecOk_replicate_none x n⟩

theorem IsJoin.isSome {n : Nat} {o : Option (List Cl)} {a : List Cl} {l : List (List Cl)}
    (h : IsJoin n o l) (ha : a.length = n) : (mergeInto a o).isSome = l.all (vecOk a) := by
  cases o with
  | none =>
    cases h
    rfl
  | some v => rw [mergeInto, (tryMergeVec_spec a v (ha.trans h.1.symm)).1, h.2 a ha]

theorem IsJoin.merge {n : Nat} {o : Option (List Cl)} {a c : List Cl} {l : List (List Cl)}
    (h : IsJoin n o l) (ha : a.length = n) (hm : mergeInto a o = some c) :
    IsJoin n (some c) (l ++ [a]) := by
  cases o with
  | none =>
    cases h
    cases hm
    exact ⟨ha, fun x _ => by rw [List.nil_append, List.all_cons, List.all_nil, Bool.and_true]⟩
  | some v =>
    obtain ⟨hlen, hx⟩ := (tryMergeVec_spec a v (ha.trans h.1.symm)).2 c hm
    refine ⟨hlen.trans ha, fun x hx' => ?_⟩
    rw [hx, h.2 x hx', List.all_append, List.all_cons, List.all_nil, Bool.and_true, Bool.and_comm]

/-- `runStage` folds the resource claims of the running tasks like this: a failing merge would be
skipped, and between pairwise compatible vectors there is none. -/
theorem IsJoin.foldl {n : Nat} (vs : List (List Cl)) {v : List Cl} {l : List (List Cl)}
    (h : IsJoin n (some v) l) (hn : ∀ a ∈ vs, a.length = n)
    (hpw : (l ++ vs).Pairwise (fun a b => vecOk b a = true)) :
    IsJoin n (some (vs.foldl (fun acc a => (tryMergeVec claimTryMerge a acc).getD acc) v)) (l ++ vs) := by
  induction vs generalizing v l with
  | nil => rwa [List.append_nil]
  | cons a vs ih =>
    have ha := hn a List.mem_cons_self
    have hs : (tryMergeVec claimTryMerge a v).isSome = true := by
      rw [← mergeInto, h.isSome ha, List.all_eq_true]
      exact fun b hb => (List.pairwise_append.mp hpw).2.2 b hb a List.mem_cons_self
    obtain ⟨c, hc⟩ := Option.isSome_iff_exists.mp hs
    rw [List.append_cons] at hpw ⊢
    rw [List.foldl_cons, hc]
    exact ih (h.merge ha hc) (fun b hb => hn b (List.mem_cons_of_mem a hb)) hpw

/-! ### the claim map: `get` after `set`, and a task's claims folded in slot by slot -/

theorem ClaimMap.get_eq (m : ClaimMap) (k : Mask) :
    m.get k = (m.find? (fun p => p.1 == k)).map (·.2) := by
  unfold ClaimMap.get
  cases m.find? (fun p => p.1 == k) <;> rfl

theorem ClaimMap.get_set (m : ClaimMap) (k k' : Mask) (v : List Cl) :
    (m.set k v).get k' = if k' = k then some v else m.get k' := by
  rw [ClaimMap.get_eq, ClaimMap.get_eq, ClaimMap.set]
  by_cases h : m.any (fun p => p.1 == k) = true
  · rw [if_pos h]
    -- every entry for `k` is replaced by `(k, v)`, which leaves the keys as they are
    have hkey : ((fun p : Mask × List Cl => p.1 == k') ∘ fun p => if p.1 == k then (k, v) else p) =
        fun p => p.1 == k' := by
      funext p
      by_cases hp : p.1 = k <;> simp [hp]
    rw [List.find?_map, hkey, Option.map_map]
    by_cases hk : k' = k
    · subst hk
      obtain ⟨q, hq⟩ := Option.isSome_iff_exists.mp (List.find?_isSome.mpr (List.any_eq_true.mp h))
      have hqk : q.1 = k' := by simpa using List.find?_some hq
      simp [hq, hqk]
    · rw [if_neg hk]
      refine Option.map_congr fun q hq => ?_
      have hqk : ¬ q.1 = k := fun e => hk ((by simpa using List.find?_some hq : q.1 = k').symm.trans e)
      simp [hqk]
  · rw [if_neg h]
    -- no entry for `k` yet: the new one goes behind all others
    have h' : m.find? (fun p => p.1 == k) = none :=
      List.find?_eq_none.mpr fun p hp hpk => h (List.any_eq_true.mpr ⟨p, hp, hpk⟩)
    by_cases hk : k' = k
    · subst hk
      simp [List.find?_append, h']
    · have : (k == k') = false := by simpa using Ne.symm hk
      simp [List.find?_append, this, hk]

/-- One step of `query_archetype_identifiers` (the add-on variant, which refuses on conflict). -/
def tryAddStep (tvec : List Cl) (acc : Option ClaimMap) (k : Mask) : Option ClaimMap :=
  match acc with
  | none => none
  | some acc =>
    match acc.get k with
    | some old =>
      match tryMergeVec claimTryMerge tvec old with
      | some merged => some (acc.set k merged)
      | none => none
    | none => some (acc.set k tvec)

theorem tryAddClaims_eq (n : Nat) (masks : List Mask) (t : Task) (m : ClaimMap) :
    tryAddClaims claimTryMerge n masks t m =
      (masks.filter t.matchesArch).foldl (tryAddStep (t.claimVec n)) (some m) := rfl

theorem tryAdd_fold_none (tvec : List Cl) (ks : List Mask) :
    ks.foldl (tryAddStep tvec) none = none := by
  induction ks with
  | nil => rfl
  | cons k ks ih => exact ih

theorem tryAddStep_some (tvec : List Cl) (acc : ClaimMap) (k : Mask) :
    tryAddStep tvec (some acc) k = (mergeInto tvec (acc.get k)).map (acc.set k) := by
  simp only [tryAddStep, mergeInto]
  cases acc.get k with
  | none => rfl
  | some old =>
    dsimp only
    cases tryMergeVec claimTryMerge tvec old <;> rfl

/-- The fold visits each listed slot once: it fails iff the merge into some listed slot fails,
and otherwise every listed slot holds its merge and every other slot is untouched. -/
theorem tryAdd_fold (tvec : List Cl) (ks : List Mask) (hn : ks.Nodup) (acc : ClaimMap) :
    (∀ r, ks.foldl (tryAddStep tvec) (some acc) = some r →
      ∀ k, r.get k = if k ∈ ks then mergeInto tvec (acc.get k) else acc.get k) ∧
    (ks.foldl (tryAddStep tvec) (some acc) = none ↔ ∃ k ∈ ks, mergeInto tvec (acc.get k) = none) := by
  induction ks generalizing acc with
  | nil => simp
  | cons k ks ih =>
    rw [List.nodup_cons] at hn
    rw [List.foldl_cons, tryAddStep_some]
    cases hm : mergeInto tvec (acc.get k) with
    | none =>
      -- the fold stays `none`, and `k` is a slot where the merge fails
      rw [Option.map_none, tryAdd_fold_none]
      exact ⟨fun _ hr => (nomatch hr), iff_of_true rfl ⟨k, List.mem_cons_self, hm⟩⟩
    | some c =>
      -- the later steps run on `acc.set k c`, whose slots other than `k` are those of `acc`
      obtain ⟨i1, i2⟩ := ih hn.2 (acc.set k c)
      simp only [ClaimMap.get_set] at i1 i2
      constructor
      · intro r hr k'
        rw [i1 r hr k']
        by_cases he : k' = k
        · subst he
          simp [hn.1, hm]
        · simp [he]
      · rw [Option.map_some, i2]
        simp only [List.mem_cons, exists_eq_or_imp, hm, reduceCtorEq, false_or]
        exact exists_congr fun k' => and_congr_right fun hk' => by
          rw [if_neg (ne_of_mem_of_not_mem hk' hn.1)]

/-- The running-task variant (`addClaims`, which keeps the old claims if a merge fails) agrees
with the refusing variant whenever the latter succeeds. -/
theorem addClaims_of_tryAdd {n : Nat} {masks : List Mask} {t : Task} {m r : ClaimMap}
    (h : tryAddClaims claimTryMerge n masks t m = some r) : addClaims claimTryMerge n masks t m = r := by
  rw [tryAddClaims_eq] at h
  unfold addClaims
  generalize masks.filter t.matchesArch = ks at h ⊢
  induction ks generalizing m with
  | nil => exact Option.some.inj h
  | cons k ks ih =>
    rw [List.foldl_cons, tryAddStep_some] at h
    cases hm : mergeInto (t.claimVec n) (m.get k) with
    | none =>
      rw [hm, Option.map_none, tryAdd_fold_none] at h
      cases h
    | some c =>
      rw [hm] at h
      rw [List.foldl_cons, ← ih h]
      congr 1
      -- `c` is what `addClaims` writes: the task's claims into an empty slot, the merge otherwise
      cases hg : m.get k with
      | none =>
        rw [hg] at hm
        cases hm
        rfl
      | some old =>
        rw [hg] at hm
        simp only [show tryMergeVec claimTryMerge (t.claimVec n) old = some c from hm, Option.getD_some]

/-! ### the claim map is the exact join of the matching running tasks -/

structure MapExact (n : Nat) (masks : List Mask) (cm : ClaimMap) (ts : List Task) : Prop where
  none_of : ∀ k ∈ masks, (∀ t ∈ ts, t.matchesArch k = false) → cm.get k = none
  some_of : ∀ k ∈ masks, (∃ t ∈ ts, t.matchesArch k = true) →
    ∃ v, cm.get k = some v ∧ v.length = n ∧
      ∀ x : List Cl, x.length = n →
        vecOk x v = ts.all (fun t => !t.matchesArch k || vecOk x (t.claimVec n))

theorem MapExact.empty (n : Nat) (masks : List Mask) : MapExact n masks [] [] :=
  ⟨fun _ _ _ => rfl, fun _ _ ⟨_, ht, _⟩ => nomatch ht⟩

/-- The vectors slot `k` of the stage's map has to account for. -/
def slotVecs (n : Nat) (ts : List Task) (k : Mask) : List (List Cl) :=
  (ts.filter (·.matchesArch k)).map (·.claimVec n)

theorem slotVecs_eq_nil {n : Nat} {ts : List Task} {k : Mask} :
    slotVecs n ts k = [] ↔ ∀ t ∈ ts, t.matchesArch k = false := by
  simp [slotVecs, List.filter_eq_nil_iff]

theorem slotVecs_ne_nil {n : Nat} {ts : List Task} {k : Mask} :
    slotVecs n ts k ≠ [] ↔ ∃ t ∈ ts, t.matchesArch k = true := by
  simp [slotVecs_eq_nil]

theorem slotVecs_all (n : Nat) (ts : List Task) (k : Mask) (p : List Cl → Bool) :
    (slotVecs n ts k).all p = ts.all (fun t => !t.matchesArch k || p (t.claimVec n)) := by
  simp [slotVecs, List.all_map, List.all_filter, Function.comp_def]

theorem slotVecs_append (n : Nat) (ts : List Task) (u : Task) (k : Mask) :
    slotVecs n (ts ++ [u]) k = slotVecs n ts k ++ if u.matchesArch k then [u.claimVec n] else [] := by
  unfold slotVecs
  rw [List.filter_append, List.map_append]
  cases h : u.matchesArch k <;> simp [h]

/-- `MapExact` is stated in elementary terms because C08 / C12 quote it; this is the form the proofs
use. -/
theorem mapExact_iff {n : Nat} {masks : List Mask} {cm : ClaimMap} {ts : List Task} :
    MapExact n masks cm ts ↔ ∀ k ∈ masks,
      IsJoin n (cm.get k) (slotVecs n ts k) ∧ (slotVecs n ts k = [] → cm.get k = none) := by
  constructor
  · intro me k hk
    by_cases hl : slotVecs n ts k = []
    · rw [me.none_of k hk (slotVecs_eq_nil.mp hl)]
      exact ⟨hl, fun _ => rfl⟩
    · obtain ⟨v, hg, hlen, hv⟩ := me.some_of k hk (slotVecs_ne_nil.mp hl)
      rw [hg]
      exact ⟨⟨hlen, fun x hx => by rw [hv x hx, slotVecs_all]⟩, fun h => absurd h hl⟩
  · intro h
    refine ⟨fun k hk hn => (h k hk).2 (slotVecs_eq_nil.mpr hn), fun k hk hs => ?_⟩
    have hj := (h k hk).1
    cases hg : cm.get k with
    | none =>
      rw [hg] at hj
      exact absurd hj (slotVecs_ne_nil.mpr hs)
    | some v =>
      rw [hg] at hj
      exact ⟨v, rfl, hj.1, fun x hx => by rw [hj.2 x hx, slotVecs_all]⟩

/-- **The component half of the add-on decision, exactly**: the claims of `u` are accepted iff they
conflict with the claims of no running task on any archetype both match. -/
theorem tryAdd_isSome_iff {n : Nat} {masks : List Mask} (hm : masks.Nodup) {cm : ClaimMap}
    {ts : List Task} (me : MapExact n masks cm ts) (u : Task) :
    (tryAddClaims claimTryMerge n masks u cm).isSome = true ↔
      ∀ k ∈ masks, u.matchesArch k = true → ∀ t ∈ ts, t.matchesArch k = true →
        vecOk (u.claimVec n) (t.claimVec n) = true := by
  -- slot by slot: the merge into slot `k` succeeds iff `u` is compatible with the tasks matching `k`
  have slot : ∀ k ∈ masks, mergeInto (u.claimVec n) (cm.get k) ≠ none ↔
      ∀ t ∈ ts, t.matchesArch k = true → vecOk (u.claimVec n) (t.claimVec n) = true := by
    intro k hk
    rw [← Option.isSome_iff_ne_none, (mapExact_iff.mp me k hk).1.isSome (claimVec_length n u),
      slotVecs_all, List.all_eq_true]
    exact forall_congr' fun t => forall_congr' fun _ => by cases t.matchesArch k <;> simp
  rw [tryAddClaims_eq, Option.isSome_iff_ne_none, Ne,
    (tryAdd_fold (u.claimVec n) _ (hm.sublist List.filter_sublist) cm).2]
  simp only [not_exists, not_and, List.mem_filter, and_imp]
  exact forall_congr' fun k => forall_congr' fun hk => forall_congr' fun _ => slot k hk

theorem tryAdd_mapExact {n : Nat} {masks : List Mask} (hm : masks.Nodup) {cm cm' : ClaimMap}
    {ts : List Task} (me : MapExact n masks cm ts) (u : Task)
    (h : tryAddClaims claimTryMerge n masks u cm = some cm') : MapExact n masks cm' (ts ++ [u]) := by
  rw [mapExact_iff] at me ⊢
  obtain ⟨f1, f2⟩ := tryAdd_fold (u.claimVec n) _ (hm.sublist List.filter_sublist) cm
  rw [tryAddClaims_eq] at h
  intro k hk
  rw [f1 cm' h k, slotVecs_append]
  cases huk : u.matchesArch k with
  | false => simpa [List.mem_filter, huk] using me k hk
  | true =>
    cases hc : mergeInto (u.claimVec n) (cm.get k) with
    | none =>
      rw [f2.mpr ⟨k, List.mem_filter.mpr ⟨hk, huk⟩, hc⟩] at h
      cases h
    | some c =>
      simp only [List.mem_filter, hk, huk, and_self, if_true]
      exact ⟨(me k hk).1.merge (claimVec_length n u) hc,
        fun he => absurd he (List.append_ne_nil_of_right_ne_nil _ (List.cons_ne_nil _ _))⟩

/-! ### tasks that may run together -/

/-- The component half of `TaskOk`. -/
def CompOk (n : Nat) (masks : List Mask) (u t : Task) : Prop :=
  ∀ k ∈ masks, u.matchesArch k = true → t.matchesArch k = true →
    vecOk (u.claimVec n) (t.claimVec n) = true

/-- `u` and `t` may run at the same time: their resource claims do not conflict, and on every
archetype both match their component claims do not conflict. -/
def TaskOk (n nres : Nat) (masks : List Mask) (u t : Task) : Prop :=
  vecOk (u.resVec nres) (t.resVec nres) = true ∧
  ∀ k ∈ masks, u.matchesArch k = true → t.matchesArch k = true →
    vecOk (u.claimVec n) (t.claimVec n) = true

theorem taskOk_symm {n nres : Nat} {masks : List Mask} {u t : Task} (h : TaskOk n nres masks u t) :
    TaskOk n nres masks t u :=
  ⟨(vecOk_comm _ _).trans h.1, fun k hk h1 h2 => (vecOk_comm _ _).trans (h.2 k hk h2 h1)⟩

theorem foldl_addClaims_exact {n : Nat} {masks : List Mask} (hm : masks.Nodup) (rest : List Task)
    {done : List Task} {cm : ClaimMap} (me : MapExact n masks cm done)
    (hpw : (done ++ rest).Pairwise (fun a b => CompOk n masks b a)) :
    MapExact n masks (rest.foldl (fun m t => addClaims claimTryMerge n masks t m) cm) (done ++ rest) := by
  induction rest generalizing done cm with
  | nil => rwa [List.append_nil]
  | cons u us ih =>
    have hu : (tryAddClaims claimTryMerge n masks u cm).isSome = true :=
      (tryAdd_isSome_iff hm me u).mpr fun k hk huk t ht htk =>
        (List.pairwise_append.mp hpw).2.2 t ht u List.mem_cons_self k hk huk htk
    obtain ⟨cm', hc⟩ := Option.isSome_iff_exists.mp hu
    rw [List.append_cons] at hpw ⊢
    rw [List.foldl_cons, addClaims_of_tryAdd hc]
    exact ih (tryAdd_mapExact hm me u hc) hpw

/-- The tasks of `next` that `addOns` starts early. -/
def accepted : List Task → List Bool → List Task
  | t :: ts, b :: bs => if b then t :: accepted ts bs else accepted ts bs
  | _, _ => []

/-- **Add-ons are safe**: the next-stage tasks started early may run together with one another
and with every running task.  `run`: the tasks whose claims the map holds; `tried`, which contains
them: the tasks whose resource claims the vector holds (an add-on refused on its components has
left its resource claims there). -/
theorem addOns_safe {n nres : Nat} {masks : List Mask} (hm : masks.Nodup) (next : List Task)
    {run tried : List Task} {cm : ClaimMap} {rc : List Cl} (me : MapExact n masks cm run)
    (hj : IsJoin nres (some rc) (tried.map (·.resVec nres))) (hsub : run.Sublist tried)
    (hpw : run.Pairwise (fun a b => TaskOk n nres masks b a)) :
    (run ++ accepted next (addOns claimTryMerge n nres masks next cm rc)).Pairwise
      (fun a b => TaskOk n nres masks b a) := by
  induction next generalizing run tried cm rc with
  | nil => simpa [addOns, accepted] using hpw
  | cons w ws ih =>
    rw [addOns]
    cases hr : tryMergeVec claimTryMerge (w.resVec nres) rc with
    | none => exact ih me hj hsub hpw
    | some rc' =>
      have hj' : IsJoin nres (some rc') ((tried ++ [w]).map (·.resVec nres)) := by
        rw [List.map_append]
        exact hj.merge (resVec_length nres w) hr
      cases hc : tryAddClaims claimTryMerge n masks w cm with
      | none => exact ih me hj' (hsub.trans (List.sublist_append_left tried [w])) hpw
      | some cm' =>
        -- both merges succeeded, so `w` fits every task whose claims are held; it joins them
        have hres : (tried.map (·.resVec nres)).all (vecOk (w.resVec nres)) = true := by
          rw [← hj.isSome (resVec_length nres w), mergeInto, hr]
          rfl
        have hw : ∀ t ∈ run, TaskOk n nres masks w t := fun t ht =>
          ⟨List.all_eq_true.mp hres _ (List.mem_map_of_mem (hsub.subset ht)),
            fun k hk h1 h2 =>
              (tryAdd_isSome_iff hm me w).mp (Option.isSome_iff_exists.mpr ⟨cm', hc⟩) k hk h1 t ht h2⟩
        show (run ++ w :: accepted ws _).Pairwise _
        rw [List.append_cons]
        exact ih (tryAdd_mapExact hm me w hc) hj' (hsub.append_right [w])
          (List.pairwise_append.mpr ⟨hpw, List.pairwise_singleton _ w,
            fun t ht u hu => List.mem_singleton.mp hu ▸ hw t ht⟩)

theorem accepted_all_false (next : List Task) : accepted next (next.map (fun _ => false)) = [] := by
  induction next with
  | nil => rfl
  | cons t ts ih => exact ih

/-- **Every phase of a stage is conflict free**: if the tasks of a stage may run together, those
that have not run yet, together with the next-stage tasks `runStage` starts early, may all run at
the same time. -/
theorem runStage_phase_safe {n nres : Nat} {masks : List Mask} (hm : masks.Nodup)
    (stage next : List Task) (hasRun : List Bool)
    (hpw : stage.Pairwise (fun a b => TaskOk n nres masks b a)) :
    ((((List.zip stage hasRun).filter (fun p => !p.2)).map (·.1)) ++
        accepted next (runStage claimTryMerge n nres masks stage hasRun next).2).Pairwise
      (fun a b => TaskOk n nres masks b a) := by
  have hpw : (((List.zip stage hasRun).filter (fun p => !p.2)).map (·.1)).Pairwise
      (fun a b => TaskOk n nres masks b a) :=
    hpw.sublist ((List.filter_sublist.map Prod.fst).trans (zip_map_fst_sublist stage hasRun))
  unfold runStage
  dsimp only
  generalize ((List.zip stage hasRun).filter (fun p => !p.2)).map (·.1) = running at hpw ⊢
  split
  · rwa [accepted_all_false, List.append_nil]
  · have me := foldl_addClaims_exact hm running (MapExact.empty n masks) (hpw.imp fun h => h.2)
    have hj := IsJoin.foldl (running.map (·.resVec nres)) (IsJoin.nil nres)
      (List.forall_mem_map.mpr fun t _ => resVec_length nres t)
      (List.pairwise_map.mpr (hpw.imp fun h => h.1))
    rw [List.foldl_map] at hj
    exact addOns_safe hm next me hj (List.Sublist.refl running) hpw

/-! ### from the static grouping to the run-time condition -/

/-- `Claim` of a claim list on component / resource `c`. -/
def clOn (l : List (Nat × VK)) (c : Nat) : Cl :=
  let ks := (l.filter (fun p => p.1 == c)).map (·.2)
  if ks.any VK.isMut then .mutable else if ks.isEmpty then .none else .immutable

theorem claimOn_eq (t : Task) (c : Nat) : t.claimOn c = clOn t.claims c := rfl

theorem resClaimOn_eq (t : Task) (p : Nat) : t.resClaimOn p = clOn (t.res.map resVK) p := by
  have hks : ((t.res.map resVK).filter (fun q => q.1 == p)).map (·.2) =
      ((t.res.filter (fun q => q.1 == p)).map (·.2)).map (fun b => if b then VK.mut else VK.ref) := by
    rw [List.filter_map, List.map_map, List.map_map]
    rfl
  have hmut : (VK.isMut ∘ fun b : Bool => if b then VK.mut else VK.ref) = id := by
    funext b
    cases b <;> rfl
  simp only [Task.resClaimOn, clOn, hks, List.any_map, hmut, List.isEmpty_map]

/-- The claim a view of kind `k` amounts to. -/
def Static.VK.cl (k : VK) : Cl := if k.isMut then .mutable else .immutable

/-- The claim the verifier reads. -/
def Static.Old.cl : Old → Cl
  | .notPresent => .none
  | .claimed k => k.cl

theorem conflictKinds_eq (k : VK) (old : Old) : conflictKinds k old = k.cl.conflicts old.cl := by
  cases old with
  | notPresent => cases k <;> rfl
  | claimed k' => cases k <;> cases k' <;> rfl

theorem clOn_cons (p : Nat × VK) (l : List (Nat × VK)) (c : Nat) :
    clOn (p :: l) c = if p.1 == c then p.2.cl.sup (clOn l c) else clOn l c := by
  by_cases h : (p.1 == c) = true
  · rw [if_pos h, clOn, clOn, List.filter_cons_of_pos (p := fun q : Nat × VK => q.1 == c) h, List.map_cons,
      List.any_cons, List.isEmpty_cons, VK.cl]
    cases p.2.isMut <;> cases ((l.filter (fun p => p.1 == c)).map (·.2)).any VK.isMut <;>
      cases ((l.filter (fun p => p.1 == c)).map (·.2)).isEmpty <;> rfl
  · rw [if_neg h, clOn, clOn, List.filter_cons_of_neg (p := fun q : Nat × VK => q.1 == c) h]

theorem conflicts_clOn (x : Cl) (l : List (Nat × VK)) (c : Nat) :
    x.conflicts (clOn l c) = l.any (fun p => p.1 == c && x.conflicts p.2.cl) := by
  induction l with
  | nil => exact conflicts_none_right x
  | cons p l ih =>
    rw [clOn_cons, List.any_cons, ← ih]
    cases p.1 == c
    · rfl
    · exact conflicts_sup x _ _

/-- At most one claim on a component unless all claims on it are shared reads (what
`view::Disjoint` and the resource-view rules enforce at compile time). -/
def ClaimsWF (l : List (Nat × VK)) : Prop :=
  ∀ c, ((l.filter (fun p => p.1 == c)).map (·.2)).any VK.isMut = true → (l.filter (fun p => p.1 == c)).length = 1

/-- With well-formed claims the first view of a component, which is what the verifier reads,
claims what the whole list claims on it. -/
theorem oldOf_cl {u : List (Nat × VK)} (hu : ClaimsWF u) (c : Nat) : (oldOf u c).cl = clOn u c := by
  have hone := hu c
  unfold oldOf clOn
  rw [← List.head?_filter]
  cases hf : u.filter (fun p => p.1 == c) with
  | nil => rfl
  | cons q qs =>
    rw [hf] at hone
    simp only [List.head?_cons, Old.cl, VK.cl, List.map_cons, List.any_cons, List.isEmpty_cons]
    cases hq : q.2.isMut with
    | true => rfl
    | false =>
      -- a mutable view further on would not be the only view of `c`
      cases hqs : (qs.map (·.2)).any VK.isMut with
      | false => rfl
      | true =>
        have : qs = [] := by simpa [hq, hqs] using hone
        rw [this] at hqs
        cases hqs

theorem claimsConflict_eq {u : List (Nat × VK)} (hu : ClaimsWF u) (t : List (Nat × VK)) :
    claimsConflict u t = t.any (fun p => p.2.cl.conflicts (clOn u p.1)) := by
  simp only [claimsConflict, conflictKinds_eq, oldOf_cl hu]

theorem static_no_conflict {u t : List (Nat × VK)} (hu : ClaimsWF u)
    (h : claimsConflict u t = false) (c : Nat) : (clOn t c).conflicts (clOn u c) = false := by
  rw [claimsConflict_eq hu, List.any_eq_false] at h
  rw [conflicts_comm, conflicts_clOn, List.any_eq_false]
  intro p hp hpc
  rw [Bool.and_eq_true, beq_iff_eq] at hpc
  obtain ⟨rfl, hx⟩ := hpc
  rw [conflicts_comm] at hx
  exact h p hp hx

def Task.WF (t : Task) : Prop := ClaimsWF t.claims ∧ ClaimsWF (t.res.map resVK)

theorem static_taskOk (n nres : Nat) (masks : List Mask) {u t : Task} (hu : u.WF)
    (h1 : claimsConflict u.claims t.claims = false)
    (h2 : claimsConflict (u.res.map resVK) (t.res.map resVK) = false) : TaskOk n nres masks t u := by
  constructor
  · refine vecOk_of_pointwise _ _ nres fun c => ?_
    rw [resClaimOn_eq, resClaimOn_eq]
    exact static_no_conflict hu.2 h2 c
  · intro k _ _ _
    refine vecOk_of_pointwise _ _ n fun c => ?_
    rw [claimOn_eq, claimOn_eq]
    exact static_no_conflict hu.1 h1 c

theorem compatible_pairwise (n nres : Nat) (masks : List Mask) {g : List Task} (hc : Compatible g)
    (hwf : ∀ t ∈ g, t.WF) : g.Pairwise (fun a b => TaskOk n nres masks b a) := by
  rw [List.pairwise_iff_getElem]
  intro i j hi hj hij
  have hmem : g[i] ∈ g.take j := List.mem_take_iff_getElem.mpr ⟨i, by omega, rfl⟩
  have := hc j hj
  rw [stageConflict, Bool.or_eq_false_iff, List.any_eq_false, List.any_eq_false] at this
  exact static_taskOk n nres masks (hwf _ (List.getElem_mem hi))
    (by simpa using this.1 g[i] hmem) (by simpa using this.2 g[i] hmem)

theorem stages_pairwise (n nres : Nat) (masks : List Mask) (ts : List Task) (hwf : ∀ t ∈ ts, t.WF) :
    ∀ st ∈ stages verifierTable mergerTable ts, st.Pairwise (fun a b => TaskOk n nres masks b a) := fun st hs =>
  compatible_pairwise n nres masks (stages_compatible ts st hs) fun t ht =>
    hwf t (stages_flatten verifierTable mergerTable ts ▸ List.mem_flatten.mpr ⟨st, hs, ht⟩)

end Brood
