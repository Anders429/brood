/-
  The stored entities: `World.ents w` lists the (identifier, row) pairs the tables of `w` hold.
  It depends on the tables alone, so the worlds between the steps of an operation need no
  allocator and no invariant.  A change to one table is an equation between lists of entities;
  `ents_setArch` lifts it to a permutation of `World.ents`; so every operation exchanges entities:
  up to order, `w.ents` is `out ++ m` and `w'.ents` is `inn ++ m`.  What this means for the map
  view, for `len` and for the ledger is read off in Lemmas/Entity and Lemmas/Ledger, from the
  invariant on both sides.
-/
import BroodModel.Lemmas.Ops
import BroodModel.Spec

namespace Brood
open Serde (ArchShape)

/-- The entities a table stores, in row order. -/
def Arch.ents (a : Arch) : List Ent :=
  (List.range a.ids.length).filterMap (fun r =>
    match a.ids[r]? with
    | some id => some ⟨id, a.row r⟩
    | none => none)

/-- The map an L1 world denotes, as the list of stored entities (table order, row order). -/
def World.ents (w : World) : List Ent := w.archs.flatMap Arch.ents

/-! ### one table -/

theorem Arch.ents_eq_map (a : Arch) :
    a.ents = (List.range a.ids.length).map fun r => ⟨a.ids.getD r default, a.row r⟩ :=
  filterMap_eq_map fun r hr => by
    simp [List.getElem?_eq_getElem (List.mem_range.mp hr)]

theorem Arch.ents_length (a : Arch) : a.ents.length = a.ids.length := by
  rw [a.ents_eq_map, List.length_map, List.length_range]

theorem Arch.ents_getElem? (a : Arch) (r : Nat) :
    a.ents[r]? = (a.ids[r]?).map fun id => ⟨id, a.row r⟩ := by
  rw [a.ents_eq_map, List.getElem?_map]
  by_cases hr : r < a.ids.length <;> simp [hr]

theorem Arch.ents_getElem?_eq_some {a : Arch} {r : Nat} {id : Ident} (h : a.ids[r]? = some id) :
    a.ents[r]? = some ⟨id, a.row r⟩ := by
  rw [a.ents_getElem?, h]; rfl

theorem Arch.ents_ids (a : Arch) : a.ents.map (·.id) = a.ids :=
  List.ext_getElem? fun r => by
    rw [List.getElem?_map, a.ents_getElem?]
    cases a.ids[r]? <;> rfl

theorem Arch.mem_ents {a : Arch} {e : Ent} :
    e ∈ a.ents ↔ ∃ r, a.ids[r]? = some e.id ∧ a.row r = e.vals := by
  simp only [List.mem_iff_getElem?, a.ents_getElem?, Option.map_eq_some_iff]
  exact exists_congr fun r =>
    ⟨fun ⟨id, h, he⟩ => he ▸ ⟨h, rfl⟩, fun ⟨h, hv⟩ => ⟨_, h, hv ▸ rfl⟩⟩

theorem ents_of_rows {a a' : Arch} (hids : a'.ids = a.ids) (g : List Val → List Val)
    (h : ∀ r < a.ids.length, a'.row r = g (a.row r)) : a'.ents = a.ents.map fun x => ⟨x.id, g x.vals⟩ := by
  refine List.ext_getElem? fun r => ?_
  rw [List.getElem?_map, a'.ents_getElem?, a.ents_getElem?, hids]
  cases hr : a.ids[r]? with
  | none => rfl
  | some id => rw [Option.map_some, h r (List.getElem?_eq_some_iff.mp hr).1]; rfl

theorem ents_push {n : Nat} {a : Arch} (s : ArchShape n a) {cv : List Val} (id : Ident)
    (hty : cv.map (·.ty) = a.mask.comps) : (a.push cv id).ents = a.ents ++ [⟨id, cv⟩] := by
  have hlen := s.length_of_tys hty
  refine List.ext_getElem? fun r => ?_
  rw [Arch.ents_getElem?, s.push_row id hlen, getElem?_append_singleton, a.ents_length, a.ents_getElem?]
  show ((a.ids ++ [id])[r]?).map _ = _
  rw [getElem?_append_singleton]
  split <;> rfl

theorem ents_removed {n : Nat} {a : Arch} (s : ArchShape n a) {r : Nat} (hr : r < a.ids.length) :
    (removedArch a r).ents = swapRemove a.ents r := by
  refine List.ext_getElem? fun j => ?_
  rw [Arch.ents_getElem?, s.removed_row hr, swapRemove_getElem? _ (a.ents_length ▸ hr), a.ents_length,
    a.ents_getElem?, a.ents_getElem?]
  show ((swapRemove a.ids r)[j]?).map _ = _
  rw [swapRemove_getElem? _ hr]
  by_cases h1 : j = a.ids.length - 1
  · simp only [if_pos h1]; rfl
  by_cases h2 : j = r
  · simp only [if_neg h1, if_pos h2]
  · simp only [if_neg h1, if_neg h2]

theorem ents_eq_nil {a : Arch} (h : a.ids = []) : a.ents = [] :=
  List.eq_nil_of_length_eq_zero (by rw [a.ents_length, h]; rfl)

theorem ents_setCell {n : Nat} {a : Arch} (s : ArchShape n a) {k r : Nat} {id : Ident} {col : List Val}
    {old v : Val} (hid : a.ids[r]? = some id) (hcol : a.cols[k]? = some col) (hold : col[r]? = some old)
    (hv : v.ty = old.ty) :
    ({ a with cols := a.cols.set k (col.set r v) } : Arch).ents = a.ents.set r ⟨id, (a.row r).set k v⟩ := by
  refine List.ext_getElem? fun j => ?_
  rw [Arch.ents_getElem?, List.getElem?_set, a.ents_length, a.ents_getElem?]
  show (a.ids[j]?).map _ = _
  by_cases hj : j < a.ids.length
  · rw [s.setCell_row hcol hold hv hj]
    by_cases h : j = r
    · subst h; rw [if_pos rfl, if_pos rfl, if_pos hj, hid]; rfl
    · rw [if_neg h, if_neg (Ne.symm h)]
  · have hr := (List.getElem?_eq_some_iff.mp hid).1
    rw [List.getElem?_eq_none (Nat.le_of_not_lt hj), if_neg (by omega)]
    rfl

/-! ### the tables of a world -/

theorem ents_setArch {w : World} (t : Tables w) {a a' : Arch} (hf : w.findArch a'.handle = some a)
    {xs ys m0 : List Ent} (h : a.ents.Perm (xs ++ m0)) (h' : a'.ents.Perm (ys ++ m0)) :
    ∃ m, w.ents.Perm (xs ++ m) ∧ (w.setArch a').ents.Perm (ys ++ m) := by
  obtain ⟨ha, hh⟩ := findArch_some hf
  obtain ⟨l1, l2, e, -, e'⟩ := replaceH_split t.handles_nodup ha hh.symm
  refine ⟨m0 ++ (l1.flatMap Arch.ents ++ l2.flatMap Arch.ents), ?_, ?_⟩
  · unfold World.ents
    rw [e, List.flatMap_append, List.flatMap_cons, ← List.append_assoc xs]
    exact (List.perm_append_comm_assoc _ _ _).trans (h.append_right _)
  · show ((replaceH w.archs a').flatMap Arch.ents).Perm _
    rw [e', List.flatMap_append, List.flatMap_cons, ← List.append_assoc ys]
    exact (List.perm_append_comm_assoc _ _ _).trans (h'.append_right _)

theorem ents_setArch_append {w : World} (t : Tables w) {a a' : Arch} (hf : w.findArch a'.handle = some a)
    {news : List Ent} (h : a'.ents = a.ents ++ news) : (w.setArch a').ents.Perm (news ++ w.ents) := by
  obtain ⟨m, h1, h2⟩ := ents_setArch (xs := []) t hf (.refl _) (h ▸ List.perm_append_comm)
  exact h2.trans (h1.symm.append_left news)

theorem ents_setArch_push {w : World} (t : Tables w) {a : Arch} (hf : w.findArch a.handle = some a)
    {cv : List Val} (hty : cv.map (·.ty) = a.mask.comps) (id : Ident) :
    (w.setArch (a.push cv id)).ents.Perm (⟨id, cv⟩ :: w.ents) :=
  ents_setArch_append (a' := a.push cv id) t hf (ents_push (t.find_shape hf) id hty)

theorem ArchFor.ents {w w1 : World} {m : Mask} {t : Arch} (af : ArchFor w w1 m t) : w1.ents = w.ents := by
  unfold World.ents
  rcases af.archs with h | h <;> rw [h]
  rw [List.flatMap_append, List.flatMap_singleton, ents_eq_nil rfl, List.append_nil]

theorem ents_shrink (w : World) : w.shrinkToFit.ents = w.ents := by
  show (w.archs.filter fun a => !a.ids.isEmpty).flatMap Arch.ents = w.archs.flatMap Arch.ents
  induction w.archs with
  | nil => rfl
  | cons a as ih =>
    rw [List.filter_cons, List.flatMap_cons, ← ih]
    cases he : a.ids.isEmpty
    · rfl
    · rw [ents_eq_nil (List.isEmpty_iff.mp he)]; rfl

/-! ### the steps -/

theorem Taken.ents {w w1 : World} {id : Ident} {a : Arch} {r : Nat} (hi : Inv w) (la : LiveAt w id a r)
    (tk : Taken w id a r w1) : w.ents.Perm (⟨id, a.row r⟩ :: w1.ents) := by
  have e : w1.ents = (w.setArch (removedArch a r)).ents := by rw [tk.eq]; rfl
  have hrow : a.ents.Perm (⟨id, a.row r⟩ :: (removedArch a r).ents) := by
    rw [ents_removed la.ok.shape la.row_lt]
    exact swapRemove_perm (Arch.ents_getElem?_eq_some la.row)
  obtain ⟨m, h1, h2⟩ := ents_setArch (a' := removedArch a r) (xs := [⟨id, a.row r⟩]) (ys := [])
    hi.tables la.find hrow (.refl _)
  exact e ▸ h1.trans (h2.symm.cons _)

theorem Moved.ents {w w' : World} {id : Ident} {a : Arch} {r : Nat} {m' : Mask} {cv : List Val}
    (hi : Inv w) (la : LiveAt w id a r) (mv : Moved w id a r m' cv w') :
    ∃ m, w.ents.Perm (⟨id, a.row r⟩ :: m) ∧ w'.ents.Perm (⟨id, cv⟩ :: m) := by
  obtain ⟨w1, w2, t, al, tk, af, hty, -, rfl⟩ := mv
  exact ⟨w1.ents, tk.ents hi la, af.ents ▸ ents_setArch_push af.tables af.find hty id⟩

theorem Overwrote.ents {w w' : World} {id : Ident} {a : Arch} {k r : Nat} {old v : Val} (hi : Inv w)
    (la : LiveAt w id a r) (o : Overwrote w a k r old v w') :
    ∃ m, w.ents.Perm (⟨id, a.row r⟩ :: m) ∧ w'.ents.Perm (⟨id, (a.row r).set k v⟩ :: m) := by
  obtain ⟨col, hcol, hold, hv, rfl⟩ := o
  obtain ⟨m0, h1, h2⟩ := set_perm_cons ⟨id, (a.row r).set k v⟩ (Arch.ents_getElem?_eq_some la.row)
  rw [← ents_setCell la.ok.shape la.row hcol hold hv] at h2
  exact ents_setArch (a' := { a with cols := a.cols.set k (col.set r v) }) (xs := [_]) (ys := [_])
    hi.tables la.find h1 h2

/-! ### the operations that create entities, and `clear` -/

theorem insert_ents {w w' : World} {shape : List Nat} {vals : List Val} {id : Ident} (hi : Inv w)
    (e : w.insert shape vals = .ok (w', id)) :
    w'.res = w.res ∧ w'.ents.Perm (⟨id, World.canonVals w.n shape vals⟩ :: w.ents) := by
  obtain ⟨w1, a, al, af, hty, -, rfl⟩ := insert_cases hi e
  exact ⟨af.res, af.ents ▸ ents_setArch_push af.tables af.find hty id⟩

theorem pushRows_ents {n k : Nat} {shape : List Nat} (rows : List (List Val)) {a a' : Arch}
    {ids : List Ident} (s : ArchShape k a) (hp : World.pushRows n shape a ids rows = .ok a') :
    a'.ents = a.ents ++ List.zipWith Ent.mk ids (rows.map (World.canonVals n shape)) := by
  induction rows generalizing a ids with
  | nil =>
    rw [World.pushRows] at hp
    cases hp
    rw [List.map_nil, List.zipWith_nil_right, List.append_nil]
  | cons r rows ih =>
    cases ids with
    | nil => cases hp
    | cons id ids =>
      obtain ⟨hty, hp⟩ := pushRows_cons_eq_ok hp
      rw [ih (s.push id hty) hp, ents_push s id hty, List.append_assoc]
      rfl

theorem extend_ents {w w' : World} {shape : List Nat} {rows : List (List Val)} {ids : List Ident}
    (hi : Inv w) (e : w.extend shape rows = .ok (w', ids)) :
    w'.res = w.res ∧ ids.length = rows.length ∧
      w'.ents.Perm (List.zipWith Ent.mk ids (rows.map (World.canonVals w.n shape)) ++ w.ents) := by
  obtain ⟨w1, a, al, a', af, hal, hp, rfl⟩ := extend_cases hi e
  have hh := pushRows_handle rows hp
  refine ⟨af.res, Alloc.allocateBatch_length hal, af.ents ▸ ?_⟩
  exact ents_setArch_append af.tables (hh ▸ af.find)
    (pushRows_ents rows (af.tables.find_shape af.find) hp)

theorem zipWith_mk_ids {ids : List Ident} {vs : List (List Val)} (h : ids.length = vs.length) :
    (List.zipWith Ent.mk ids vs).map (·.id) = ids := by
  rw [← List.map_uncurry_zip_eq_zipWith, List.map_map]
  exact List.map_fst_zip (Nat.le_of_eq h)

theorem zipWith_mk_vals {ids : List Ident} {vs : List (List Val)} (h : ids.length = vs.length) :
    (List.zipWith Ent.mk ids vs).map (·.vals) = vs := by
  rw [← List.map_uncurry_zip_eq_zipWith, List.map_map]
  exact List.map_snd_zip (Nat.le_of_eq h.symm)

theorem clear_ents {w w' : World} {order : List Mask} {drops : List Val}
    (e : w.clear order = .ok (w', drops)) : w'.ents = [] := by
  rw [World.ents, (clear_cases e).1, List.flatMap_map]
  exact List.flatMap_eq_nil_iff.mpr fun a _ => ents_eq_nil rfl

end Brood
