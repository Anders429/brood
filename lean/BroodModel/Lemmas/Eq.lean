/-
  `World::eq` (`World.eqWorld`): never undefined on worlds satisfying the invariant, reflexive,
  symmetric, and sound for the map view (equal worlds hold the same live identifiers with
  equivalent values, and equivalent resources).  Rows, columns and resources are compared by one
  scheme (same length, related place by place: `all_zipWith_*`), and so are the slot lists
  (`slotsEqv_true_iff`), a slot being comparable when the table it names exists (`SlotResolves`).
  The tables are matched by component set, from one side only; between worlds with equally many
  tables that is symmetric, because no two tables of a world have the same component set
  (`match_symm`, by pigeonhole).  `eqWorld_true_iff` puts the clauses together.
-/
import BroodModel.Lemmas.Entity

namespace Brood
open Alloc

/-! ### the scheme of `rowEqv` and `colsEqv`: same length, and related place by place -/

theorem all_zipWith_comm {α} {f : α → α → Bool} (hf : ∀ a b, f a b = f b a) (x y : List α) :
    (x.length == y.length && (List.zipWith f x y).all id) =
      (y.length == x.length && (List.zipWith f y x).all id) := by
  rw [BEq.comm, List.zipWith_comm]
  exact congrArg (_ && List.all · id)
    (congrArg (List.zipWith · y x) (funext fun b => funext fun a => hf a b))

theorem all_zipWith_cons {α} (f : α → α → Bool) (a b : α) (x y : List α) :
    ((a :: x).length == (b :: y).length && (List.zipWith f (a :: x) (b :: y)).all id) =
      (f a b && (x.length == y.length && (List.zipWith f x y).all id)) := by
  rw [List.length_cons, List.length_cons, List.zipWith_cons_cons, List.all_cons, id, Bool.and_left_comm]
  congr 2
  exact Bool.eq_iff_iff.mpr (by simp)

/-- Lists related by the scheme, taken apart place by place. -/
@[elab_as_elim]
theorem all_zipWith_rec {α} {f : α → α → Bool} {motive : List α → List α → Prop} (nil : motive [] [])
    (cons : ∀ {a b x y}, f a b = true → (x.length == y.length && (List.zipWith f x y).all id) = true →
      motive x y → motive (a :: x) (b :: y))
    {x y : List α} (h : (x.length == y.length && (List.zipWith f x y).all id) = true) : motive x y := by
  induction x generalizing y with
  | nil =>
    cases y with
    | nil => exact nil
    | cons _ _ => cases h
  | cons a x ih =>
    cases y with
    | nil => cases h
    | cons b y =>
      rw [all_zipWith_cons, Bool.and_eq_true] at h
      exact cons h.1 h.2 (ih h.2)

theorem all_zipWith_map {α} {f : α → α → Bool} {g : α → α} (x : List α) (h : ∀ a ∈ x, f a (g a) = true) :
    (x.length == (x.map g).length && (List.zipWith f x (x.map g)).all id) = true := by
  rw [List.length_map, beq_self_eq_true, Bool.true_and, List.zipWith_map_right, List.zipWith_self,
    List.all_map, List.all_eq_true]
  exact h

/-! ### values, rows, columns, tables -/

theorem Val.eqv_refl (v : Val) : v.eqv v = true := by simp [Val.eqv]

theorem Val.eqv_symm (a b : Val) : a.eqv b = b.eqv a := by
  rw [Val.eqv, Val.eqv, BEq.comm (a := a.ty), BEq.comm (a := a.base)]

/-- Row / resource-list equivalence: same length, pairwise equivalent values. -/
def rowEqv (x y : List Val) : Bool := x.length == y.length && (List.zipWith Val.eqv x y).all id

theorem rowEqv_refl (x : List Val) : rowEqv x x = true := by
  simp [rowEqv, List.zipWith_self, Val.eqv_refl]

theorem rowEqv_cons (a b : Val) (x y : List Val) : rowEqv (a :: x) (b :: y) = (a.eqv b && rowEqv x y) :=
  all_zipWith_cons Val.eqv a b x y

@[elab_as_elim]
theorem rowEqv_rec {motive : List Val → List Val → Prop} (nil : motive [] [])
    (cons : ∀ {a b x y}, a.eqv b = true → rowEqv x y = true → motive x y → motive (a :: x) (b :: y))
    {x y : List Val} (h : rowEqv x y = true) : motive x y :=
  all_zipWith_rec nil cons h

theorem rowEqv_symm (x y : List Val) : rowEqv x y = rowEqv y x := all_zipWith_comm Val.eqv_symm x y

theorem rowEqv_map {φ : Val → Val} (x : List Val) (h : ∀ v ∈ x, v.eqv (φ v) = true) :
    rowEqv x (x.map φ) = true :=
  all_zipWith_map x h

theorem colsEqv_eq (x y : List (List Val)) :
    World.colsEqv x y = (x.length == y.length && (List.zipWith rowEqv x y).all id) := rfl

theorem colsEqv_refl (x : List (List Val)) : World.colsEqv x x = true := by
  simp [colsEqv_eq, List.zipWith_self, rowEqv_refl]

theorem colsEqv_symm (x y : List (List Val)) : World.colsEqv x y = World.colsEqv y x :=
  all_zipWith_comm rowEqv_symm x y

theorem colsEqv_map {φ : Val → Val} (x : List (List Val)) (h : ∀ c ∈ x, ∀ v ∈ c, v.eqv (φ v) = true) :
    World.colsEqv x (x.map (·.map φ)) = true :=
  all_zipWith_map (f := rowEqv) x fun c hc => rowEqv_map c (h c hc)

theorem archEqv_refl (x : Arch) : World.archEqv x x = true := by
  simp [World.archEqv, colsEqv_refl]

theorem archEqv_symm (x y : Arch) : World.archEqv x y = World.archEqv y x := by
  rw [World.archEqv, World.archEqv, colsEqv_symm, BEq.comm (a := x.ids.length), BEq.comm (a := x.ids)]

theorem cell_eqv {c d : List Val} (h : rowEqv c d = true) (r : Nat) :
    (c[r]? = none ∧ d[r]? = none) ∨ ∃ u v, c[r]? = some u ∧ d[r]? = some v ∧ u.eqv v = true := by
  rw [rowEqv, Bool.and_eq_true, beq_iff_eq, zipWith_all_iff] at h
  cases hc : c[r]? with
  | none => exact .inl ⟨rfl, List.getElem?_eq_none (h.1 ▸ List.getElem?_eq_none_iff.mp hc)⟩
  | some u =>
    obtain ⟨v, hd⟩ : ∃ v, d[r]? = some v :=
      ⟨_, List.getElem?_eq_getElem (h.1 ▸ (List.getElem?_eq_some_iff.mp hc).1)⟩
    exact .inr ⟨u, v, rfl, hd, h.2 r u v hc hd⟩

theorem colsEqv_row {x y : List (List Val)} (h : World.colsEqv x y = true) (r : Nat) :
    rowEqv (x.filterMap (fun c => c[r]?)) (y.filterMap (fun c => c[r]?)) = true := by
  refine all_zipWith_rec (f := rowEqv)
    (motive := fun x y => rowEqv (x.filterMap (fun c => c[r]?)) (y.filterMap (fun c => c[r]?)) = true)
    rfl (fun {c d cs ds} hcd _ ih => ?_) h
  rcases cell_eqv hcd r with ⟨h1, h2⟩ | ⟨u, v, h1, h2, h3⟩
  · simp only [List.filterMap_cons, h1, h2]; exact ih
  · simp only [List.filterMap_cons, h1, h2]
    rw [rowEqv_cons, h3, ih]; rfl

/-! ### slots -/

/-- An active slot of `w` names an existing table. -/
def SlotResolves (w : World) (s : Slot) : Prop := ∀ l, s.loc = some l → ∃ a, w.findArch l.arch = some a

def SlotsResolve (w : World) (ss : List Slot) : Prop := ∀ s ∈ ss, SlotResolves w s

theorem Inv.slotsResolve {w : World} (h : Inv w) : SlotsResolve w w.alloc.slots := by
  intro s hs l hl
  obtain ⟨i, hi⟩ := List.getElem?_of_mem hs
  obtain ⟨a, hf, -⟩ := h.live_row (id := ⟨i, s.gen⟩) (get_eq_some.mpr ⟨s, hi, rfl, hl⟩)
  exact ⟨a, hf⟩

theorem slotEqv_ok {a b : World} {s t : Slot} (ha : SlotResolves a s) (hb : SlotResolves b t) :
    ∃ r, World.slotEqv a b s t = .ok r := by
  unfold World.slotEqv
  split
  · exact ⟨_, rfl⟩
  split
  · exact ⟨_, rfl⟩
  · next l r hs ht =>
    obtain ⟨x, hx⟩ := ha l hs
    obtain ⟨y, hy⟩ := hb r ht
    rw [World.maskOf, World.maskOf, hx, hy]
    exact ⟨_, rfl⟩
  · exact ⟨_, rfl⟩

theorem slotEqv_comm (a b : World) (s t : Slot) : World.slotEqv a b s t = World.slotEqv b a t s := by
  unfold World.slotEqv
  by_cases hg : s.gen = t.gen
  · rw [if_neg (Decidable.not_not.mpr hg), if_neg (Decidable.not_not.mpr hg.symm)]
    cases s.loc with
    | none => cases t.loc <;> rfl
    | some l =>
      cases t.loc with
      | none => rfl
      | some r =>
        dsimp only
        cases a.maskOf l.arch with
        | none => cases b.maskOf r.arch <;> rfl
        | some ma =>
          cases b.maskOf r.arch with
          | none => rfl
          | some mb =>
            dsimp only
            rw [BEq.comm (a := ma), BEq.comm (a := l.row)]
  · rw [if_pos hg, if_pos (Ne.symm hg)]

theorem slotEqv_refl {w : World} {s : Slot} (h : SlotResolves w s) : World.slotEqv w w s s = .ok true := by
  unfold World.slotEqv
  rw [if_neg (Decidable.not_not.mpr rfl)]
  cases hs : s.loc with
  | none => rfl
  | some l =>
    obtain ⟨x, hx⟩ := h l hs
    simp [World.maskOf, hx]

theorem slotsEqv_ok {a b : World} (ss ts : List Slot) (ha : SlotsResolve a ss) (hb : SlotsResolve b ts) :
    ∃ r, World.slotsEqv a b ss ts = .ok r := by
  fun_induction World.slotsEqv a b ss ts with
  | case1 => exact ⟨_, rfl⟩
  | case2 s ss t ts u h =>
    obtain ⟨r, hr⟩ := slotEqv_ok (ha s List.mem_cons_self) (hb t List.mem_cons_self)
    cases hr.symm.trans h
  | case3 => exact ⟨_, rfl⟩
  | case4 s ss t ts _ ih =>
    exact ih (fun s' hs' => ha s' (List.mem_cons_of_mem _ hs')) fun t' ht' => hb t' (List.mem_cons_of_mem _ ht')
  | case5 => exact ⟨_, rfl⟩

theorem slotsEqv_cons_true (a b : World) (s t : Slot) (ss ts : List Slot) :
    World.slotsEqv a b (s :: ss) (t :: ts) = .ok true ↔
      World.slotEqv a b s t = .ok true ∧ World.slotsEqv a b ss ts = .ok true := by
  rw [World.slotsEqv]
  split
  · next h => simp [h]
  · next h => simp [h]
  · next h => simp [h]

theorem slotsEqv_true_iff {a b : World} {ss ts : List Slot} : World.slotsEqv a b ss ts = .ok true ↔
    ss.length = ts.length ∧ ∀ (i : Nat) (s t : Slot), ss[i]? = some s → ts[i]? = some t →
      World.slotEqv a b s t = .ok true := by
  induction ss generalizing ts with
  | nil =>
    cases ts with
    | nil => exact ⟨fun _ => ⟨rfl, fun _ _ _ hs => by cases hs⟩, fun _ => rfl⟩
    | cons _ _ => exact ⟨fun h => (by cases h), fun h => (by cases h.1)⟩
  | cons s ss ih =>
    cases ts with
    | nil => exact ⟨fun h => (by cases h), fun h => (by cases h.1)⟩
    | cons t ts =>
      rw [slotsEqv_cons_true, ih]
      constructor
      · rintro ⟨h0, hl, hp⟩
        refine ⟨congrArg (· + 1) hl, fun i s' t' hs ht => ?_⟩
        cases i with
        | zero => cases hs; cases ht; exact h0
        | succ i => exact hp i s' t' hs ht
      · rintro ⟨hl, hp⟩
        exact ⟨hp 0 s t rfl rfl, Nat.succ.inj hl, fun i s' t' hs ht => hp (i + 1) s' t' hs ht⟩

theorem slotsEqv_map {a b : World} (f : Slot → Slot) (ss : List Slot)
    (h : ∀ s ∈ ss, World.slotEqv a b s (f s) = .ok true) : World.slotsEqv a b ss (ss.map f) = .ok true :=
  slotsEqv_true_iff.mpr ⟨(List.length_map _).symm, fun i s t hs ht => by
    rw [List.getElem?_map, hs] at ht
    cases ht
    exact h s (List.mem_of_getElem? hs)⟩

theorem slotsEqv_refl {w : World} {ss : List Slot} (hr : SlotsResolve w ss) :
    World.slotsEqv w w ss ss = .ok true :=
  slotsEqv_true_iff.mpr ⟨rfl, fun _ s _ hs ht =>
    Option.some.inj (hs.symm.trans ht) ▸ slotEqv_refl (hr s (List.mem_of_getElem? hs))⟩

/-! ### the table clause of `World::eq` -/

theorem matchIn_iff {b : World} (hb : Inv b) {x : Arch} :
    World.matchIn b x = true ↔ ∃ y ∈ b.archs, y.mask = x.mask ∧ World.archEqv x y = true := by
  have : World.matchIn b x = (b.cfHit x.mask).any (World.archEqv x) := by
    unfold World.matchIn World.cfHit
    cases lookupH b.foreign x.mask with
    | none => rfl
    | some h => dsimp only; cases b.findArch h <;> rfl
  rw [this, Option.any_eq_true]
  exact ⟨fun ⟨y, hy, he⟩ => ⟨y, (hb.tables.cfHit_eq_some.mp hy).1, (hb.tables.cfHit_eq_some.mp hy).2, he⟩,
    fun ⟨y, h1, h2, he⟩ => ⟨y, hb.tables.cfHit_eq_some.mpr ⟨h1, h2⟩, he⟩⟩

theorem match_symm {a b : World} (ha : Inv a) (hb : Inv b) (hlen : a.archs.length = b.archs.length)
    (h : ∀ x ∈ a.archs, ∃ y ∈ b.archs, y.mask = x.mask ∧ World.archEqv x y = true) :
    ∀ y ∈ b.archs, ∃ x ∈ a.archs, x.mask = y.mask ∧ World.archEqv y x = true := by
  have hsub : ∀ m ∈ a.archs.map (·.mask), m ∈ b.archs.map (·.mask) := by
    intro m hm
    obtain ⟨x, hx, rfl⟩ := List.mem_map.mp hm
    obtain ⟨y, hy, hym, _⟩ := h x hx
    exact List.mem_map.mpr ⟨y, hy, hym⟩
  have hback := subset_of_nodup_length ha.masks_nodup hsub (by simp [hlen])
  intro y hy
  obtain ⟨x, hx, hxm⟩ := List.mem_map.mp (hback y.mask (List.mem_map.mpr ⟨y, hy, rfl⟩))
  obtain ⟨y', hy', hym', he⟩ := h x hx
  have : y' = y := eq_of_nodup_map hb.masks_nodup hy' hy (by rw [hym', hxm])
  subst this
  exact ⟨x, hx, hxm, by rw [archEqv_symm]; exact he⟩

/-! ### `World::eq` -/

/-- `eqWorld` in terms of its clauses (no undefined behaviour under the invariant). -/
theorem eqWorld_eq {a b : World} (ha : Inv a) (hb : Inv b) :
    ∃ rs : Bool, World.slotsEqv a b a.alloc.slots b.alloc.slots = .ok rs ∧
      World.eqWorld a b = .ok (decide (a.len = b.len) && decide (a.archs.length = b.archs.length) &&
        a.archs.all (World.matchIn b) && rs && (a.alloc.free == b.alloc.free &&
          a.res.length == b.res.length && (List.zipWith Val.eqv a.res b.res).all id)) := by
  obtain ⟨rs, hrs⟩ := slotsEqv_ok a.alloc.slots b.alloc.slots ha.slotsResolve hb.slotsResolve
  refine ⟨rs, hrs, ?_⟩
  unfold World.eqWorld
  rw [hrs]
  by_cases h1 : a.len = b.len
  · by_cases h2 : a.archs.length = b.archs.length
    · cases a.archs.all (World.matchIn b) <;> cases rs <;> simp [h1, h2]
    · simp [h1, h2]
  · simp [h1]

theorem eqWorld_ok {a b : World} (ha : Inv a) (hb : Inv b) : ∃ r, World.eqWorld a b = .ok r := by
  obtain ⟨rs, _, h⟩ := eqWorld_eq ha hb
  exact ⟨_, h⟩

theorem eqWorld_true_iff {a b : World} (ha : Inv a) (hb : Inv b) :
    World.eqWorld a b = .ok true ↔
      a.len = b.len ∧ a.archs.length = b.archs.length ∧
      (∀ x ∈ a.archs, ∃ y ∈ b.archs, y.mask = x.mask ∧ World.archEqv x y = true) ∧
      World.slotsEqv a b a.alloc.slots b.alloc.slots = .ok true ∧
      a.alloc.free = b.alloc.free ∧ rowEqv a.res b.res = true := by
  obtain ⟨rs, hrs, h⟩ := eqWorld_eq ha hb
  rw [h, hrs]
  simp only [Out.ok.injEq, Bool.and_eq_true, decide_eq_true_eq, beq_iff_eq, List.all_eq_true, rowEqv]
  constructor
  · rintro ⟨⟨⟨⟨h1, h2⟩, h3⟩, h4⟩, ⟨h5, h6⟩, h7⟩
    exact ⟨h1, h2, fun x hx => (matchIn_iff hb).mp (h3 x hx), h4, h5, h6, h7⟩
  · rintro ⟨h1, h2, h3, h4, h5, h6, h7⟩
    exact ⟨⟨⟨⟨h1, h2⟩, fun x hx => (matchIn_iff hb).mpr (h3 x hx)⟩, h4⟩, ⟨h5, h6⟩, h7⟩

theorem eqWorld_refl {w : World} (hi : Inv w) : World.eqWorld w w = .ok true :=
  (eqWorld_true_iff hi hi).mpr ⟨rfl, rfl, fun x hx => ⟨x, hx, rfl, archEqv_refl x⟩,
    slotsEqv_refl hi.slotsResolve, rfl, rowEqv_refl _⟩

theorem eqWorld_true_symm {a b : World} (ha : Inv a) (hb : Inv b)
    (h : World.eqWorld a b = .ok true) : World.eqWorld b a = .ok true := by
  obtain ⟨h1, h2, h3, h4, h5, h6⟩ := (eqWorld_true_iff ha hb).mp h
  obtain ⟨hl, hp⟩ := slotsEqv_true_iff.mp h4
  exact (eqWorld_true_iff hb ha).mpr
    ⟨h1.symm, h2.symm, match_symm ha hb h2 h3,
      slotsEqv_true_iff.mpr ⟨hl.symm, fun i t s ht hs => slotEqv_comm a b s t ▸ hp i s t hs ht⟩, h5.symm,
      by rw [rowEqv_symm]; exact h6⟩

theorem eqWorld_symm {a b : World} (ha : Inv a) (hb : Inv b) :
    World.eqWorld a b = World.eqWorld b a := by
  obtain ⟨r1, h1⟩ := eqWorld_ok ha hb
  obtain ⟨r2, h2⟩ := eqWorld_ok hb ha
  rw [h1, h2]
  refine congrArg Out.ok (Bool.eq_iff_iff.mpr ⟨fun h => ?_, fun h => ?_⟩)
  · subst h; exact Out.ok.inj (h2.symm.trans (eqWorld_true_symm ha hb h1))
  · subst h; exact Out.ok.inj (h1.symm.trans (eqWorld_true_symm hb ha h2))

/-! ### soundness with respect to the map view -/

/-- Two optional rows are equivalent: both absent, or both present with equivalent values. -/
def entEqv : Option (List Val) → Option (List Val) → Bool
  | some x, some y => rowEqv x y
  | none, none => true
  | _, _ => false

theorem entity_of_tables_match {a b : World} (ha : Inv a) (hb : Inv b)
    (h : ∀ x ∈ a.archs, ∃ y ∈ b.archs, y.mask = x.mask ∧ World.archEqv x y = true)
    {id : Ident} {vs : List Val} (he : a.entity id = some vs) :
    ∃ vs', b.entity id = some vs' ∧ rowEqv vs vs' = true := by
  obtain ⟨x, hx, r, hr, rfl⟩ := (entity_eq_some_iff ha).mp he
  obtain ⟨y, hy, -, hxy⟩ := h x hx
  simp only [World.archEqv, Bool.and_eq_true, beq_iff_eq] at hxy
  exact ⟨y.row r, (entity_eq_some_iff hb).mpr ⟨y, hy, r, hxy.1.2 ▸ hr, rfl⟩, colsEqv_row hxy.2 r⟩

/-- The map view is decided by the table clause of `World::eq` alone: the map is what the tables
store, so the slots need not be looked at. -/
theorem entEqv_of_tables_match {a b : World} (ha : Inv a) (hb : Inv b)
    (hlen : a.archs.length = b.archs.length)
    (h : ∀ x ∈ a.archs, ∃ y ∈ b.archs, y.mask = x.mask ∧ World.archEqv x y = true) (id : Ident) :
    entEqv (a.entity id) (b.entity id) = true := by
  cases hea : a.entity id with
  | some vs =>
    obtain ⟨vs', h1, h2⟩ := entity_of_tables_match ha hb h hea
    rw [h1]; exact h2
  | none =>
    cases heb : b.entity id with
    | none => rfl
    | some vs' =>
      obtain ⟨vs, h1, -⟩ := entity_of_tables_match hb ha (match_symm ha hb hlen h) heb
      rw [hea] at h1; cases h1

theorem eqWorld_sound {a b : World} (ha : Inv a) (hb : Inv b) (h : World.eqWorld a b = .ok true) :
    a.len = b.len ∧ rowEqv a.res b.res = true ∧
    ∀ id, entEqv (a.entity id) (b.entity id) = true :=
  let ⟨h1, h2, h3, _, _, h6⟩ := (eqWorld_true_iff ha hb).mp h
  ⟨h1, h6, entEqv_of_tables_match ha hb h2 h3⟩

end Brood
