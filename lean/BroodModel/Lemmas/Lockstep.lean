/-
  Lock step, in full (C06 / C10): two worlds over the same registry that hold the same map (values
  equal up to the component types' `PartialEq`) and have the same allocator abstraction (`Twin`), and
  that receive the same operations, are issued the same identifiers and keep holding the same map —
  for every history.  Since every query is a function of the map (C03), this is "behaves
  identically under any further operations (same identifiers issued, same query results up to
  iteration order)".  A world and its copy are twins (`Copy.twin`).
-/
-- `RefStep` and `C01_step_refines` are the statement of C01 and are defined with it
import BroodModel.Props.C01
import BroodModel.Lemmas.AllocAbs
import BroodModel.Lemmas.QueryL
import BroodModel.Lemmas.Copy

namespace Brood

/-! ### rows and optional rows equal up to `PartialEq` -/

@[simp] theorem rowEqv_nil : rowEqv [] [] = true := rfl

theorem eqv_ty {a b : Val} (h : a.eqv b = true) : a.ty = b.ty := by
  rw [Val.eqv, Bool.and_eq_true, beq_iff_eq] at h
  exact h.1

theorem rowEqv_insertVal (v : Val) {x y : List Val} (h : rowEqv x y = true) :
    rowEqv (Spec.insertVal v x) (Spec.insertVal v y) = true := by
  refine rowEqv_rec (rowEqv_refl _) (fun {a b x y} hab hxy ih => ?_) h
  rw [Spec.insertVal, Spec.insertVal, eqv_ty hab]
  by_cases h1 : v.ty < b.ty
  · rw [if_pos h1, if_pos h1, rowEqv_cons, rowEqv_cons, Val.eqv_refl, hab, hxy]; rfl
  rw [if_neg h1, if_neg h1]
  by_cases h2 : v.ty = b.ty
  · rw [if_pos h2, if_pos h2, rowEqv_cons, Val.eqv_refl, hxy]; rfl
  · rw [if_neg h2, if_neg h2, rowEqv_cons, hab, ih]; rfl

theorem rowEqv_filter_ty (c : Nat) {x y : List Val} (h : rowEqv x y = true) :
    rowEqv (x.filter (fun v => v.ty ≠ c)) (y.filter (fun v => v.ty ≠ c)) = true := by
  refine rowEqv_rec rfl (fun {a b x y} hab hxy ih => ?_) h
  simp only [List.filter_cons, eqv_ty hab]
  split
  · rw [rowEqv_cons, hab, ih]; rfl
  · exact ih

theorem rowEqv_any_ty (c : Nat) {x y : List Val} (h : rowEqv x y = true) :
    x.any (fun v => v.ty == c) = y.any (fun v => v.ty == c) := by
  refine rowEqv_rec rfl (fun {a b x y} hab hxy ih => ?_) h
  simp only [List.any_cons, eqv_ty hab, ih]

theorem maskOf_eqv (n : Nat) {x y : List Val} (h : rowEqv x y = true) : Spec.maskOf n x = Spec.maskOf n y :=
  List.map_congr_left fun c _ => rowEqv_any_ty c h

theorem entEqv_map {f : List Val → List Val} (hf : ∀ {x y}, rowEqv x y = true → rowEqv (f x) (f y) = true)
    {x y : Option (List Val)} (h : entEqv x y = true) : entEqv (x.map f) (y.map f) = true :=
  match x, y, h with
  | none, none, _ => rfl
  | some _, some _, h => hf h

theorem entEqv_some {vals : List Val} {y : Option (List Val)} (h : entEqv (some vals) y = true) :
    ∃ vals', y = some vals' ∧ rowEqv vals vals' = true := by
  cases y with
  | none => cases h
  | some vals' => exact ⟨vals', rfl, h⟩

theorem entEqv_isSome {x y : Option (List Val)} (h : entEqv x y = true) : x.isSome = y.isSome :=
  match x, y, h with
  | none, none, _ => rfl
  | some _, some _, _ => rfl

theorem entEqv_symm (x y : Option (List Val)) : entEqv x y = entEqv y x :=
  match x, y with
  | none, none => rfl
  | some x, some y => rowEqv_symm x y
  | none, some _ => rfl
  | some _, none => rfl

/-! ### the reference step with the issued identifiers exposed -/

/-- `RefStep` with the identifiers the implementation issued. -/
def RefStepI (n : Nat) (m m' : EMap) : Op → List Ident → Prop
  | .insert shape vals, iss =>
      ∃ nid, iss = [nid] ∧ m nid = none ∧ m' = m.upd nid (some (World.canonVals n shape vals))
  | .extend shape rows, ids =>
      ids.length = rows.length ∧ ids.Nodup ∧ (∀ id ∈ ids, m id = none) ∧
        (∀ (k : Nat) (id : Ident) (r : List Val), ids[k]? = some id → rows[k]? = some r →
          m' id = some (World.canonVals n shape r)) ∧
        (∀ id', id' ∉ ids → m' id' = m id')
  | op, iss => iss = [] ∧ RefStep n m m' op

theorem step_refinesI {w w' : World} (hi : Inv w) {op : Op}
    (e : step w op = .ok w') : RefStepI w.n w.entity w'.entity op (issued w op) := by
  have hr := step_refines hi e
  cases op with
  | insert shape vals =>
    obtain ⟨nid, h⟩ := fstOut_eq_ok e
    obtain ⟨p1, p2, p3, -⟩ := insert_entity hi h
    exact ⟨nid, by simp only [issued, h], p1, upd_ext p2 p3⟩
  | extend shape rows =>
    obtain ⟨ids, h⟩ := fstOut_eq_ok e
    obtain ⟨q1, q2, q3, q4, q5, -⟩ := extend_entity hi h
    simp only [issued, h]
    exact ⟨q1, q2, q3, q4, q5⟩
  | remove _ | clear _ | add _ _ _ | del _ _ | write _ _ _ | reserve _ | shrink => exact ⟨rfl, hr⟩

theorem refStepI_forget {n : Nat} {m m' : EMap} {op : Op} {iss : List Ident} :
    RefStepI n m m' op.forget iss ↔ RefStepI n m m' op iss := by
  cases op <;> exact Iff.rfl

/-- Two maps that agree on every identifier up to `PartialEq` of the values. -/
def MapEqv (ma mb : EMap) : Prop := ∀ id, entEqv (ma id) (mb id) = true

theorem mapEqv_upd {ma mb : EMap} (h : MapEqv ma mb) (id : Ident) {x y : Option (List Val)}
    (hxy : entEqv x y = true) : MapEqv (ma.upd id x) (mb.upd id y) := by
  intro j
  unfold EMap.upd
  split
  · exact hxy
  · exact h j

/-- **The reference step respects map equivalence**: the same operation (up to `clear`'s table
order) with the same issued identifiers, applied to equivalent maps, gives equivalent maps. -/
theorem refStepI_eqv {n : Nat} {ma ma' mb mb' : EMap} {opa opb : Op} {iss : List Ident}
    (h : MapEqv ma mb) (hop : opa.forget = opb.forget)
    (ra : RefStepI n ma ma' opa iss) (rb : RefStepI n mb mb' opb iss) : MapEqv ma' mb' := by
  rw [← refStepI_forget, hop] at ra
  rw [← refStepI_forget] at rb
  generalize opb.forget = op at ra rb
  cases op
  case insert shape vals =>
    obtain ⟨nid, rfl, -, rfl⟩ := ra
    obtain ⟨_, h1, -, rfl⟩ := rb
    cases h1
    exact mapEqv_upd h nid (rowEqv_refl _)
  case extend shape rows =>
    obtain ⟨hlen, -, -, a4, a5⟩ := ra
    obtain ⟨-, -, -, b4, b5⟩ := rb
    intro id
    by_cases hid : id ∈ iss
    · obtain ⟨k, hk⟩ := List.getElem?_of_mem hid
      obtain ⟨r, hr⟩ : ∃ r, rows[k]? = some r :=
        ⟨_, List.getElem?_eq_getElem (hlen ▸ (List.getElem?_eq_some_iff.mp hk).1)⟩
      rw [a4 k id r hk hr, b4 k id r hk hr]
      exact rowEqv_refl _
    · rw [a5 id hid, b5 id hid]; exact h id
  -- the other operations issue nothing, and the new map is a function of the old
  all_goals
    obtain ⟨-, rfl⟩ := ra
    obtain ⟨-, rfl⟩ := rb
  case remove id => exact mapEqv_upd h id rfl
  case clear => exact fun _ => rfl
  case add id c v => exact mapEqv_upd h id (entEqv_map (rowEqv_insertVal v) (h id))
  case del id c => exact mapEqv_upd h id (entEqv_map (rowEqv_filter_ty c) (h id))
  case write id c v =>
    refine mapEqv_upd h id (entEqv_map (fun {x y} hxy => ?_) (h id))
    rw [rowEqv_any_ty c hxy]
    split
    · exact rowEqv_insertVal v hxy
    · exact hxy
  case reserve | shrink => exact h

/-! ### twins -/

/-- What two worlds must share to stay in lock step. -/
structure Twin (a b : World) : Prop where
  n : a.n = b.n
  abs : a.alloc.abs = b.alloc.abs
  map : MapEqv a.entity b.entity

theorem Twin.symm {a b : World} (t : Twin a b) : Twin b a :=
  ⟨t.n.symm, t.abs.symm, fun id => by rw [entEqv_symm]; exact t.map id⟩

theorem twin_step {a b a' b' : World} (ha : Inv a) (hb : Inv b) (t : Twin a b) {opa opb : Op}
    (hop : opa.forget = opb.forget) (ea : step a opa = .ok a') (eb : step b opb = .ok b') :
    Twin a' b' ∧ issued a opa = issued b opb := by
  obtain ⟨h1, h2⟩ := lockstep_step ha hb t.abs hop ea eb
  have ra := step_refinesI ha ea
  have rb := step_refinesI hb eb
  rw [← h2, ← t.n] at rb
  exact ⟨⟨by rw [step_n ea, step_n eb, t.n], h1, refStepI_eqv t.map hop ra rb⟩, h2⟩

theorem twin_lockstep : ∀ (opsa opsb : List Op), opsa.map Op.forget = opsb.map Op.forget →
    ∀ {a b a' b' : World} {ia ib : List Ident}, Inv a → Inv b → Twin a b →
      runIssued a opsa = .ok (a', ia) → runIssued b opsb = .ok (b', ib) →
      ia = ib ∧ Twin a' b' :=
  runIssued_lockstep fun ha hb t => twin_step ha hb t

/-- **Lock step, every history**: the same identifiers are issued and the worlds keep holding the
same map.  (`twin_lockstep`: admissibility of the operations is not needed.) -/
theorem twin_run : ∀ (opsa opsb : List Op), opsa.map Op.forget = opsb.map Op.forget →
    ∀ {a b a' b' : World} {ia ib : List Ident}, Inv a → Inv b → Twin a b → (∀ op ∈ opsa, op.wt a.n) →
      runIssued a opsa = .ok (a', ia) → runIssued b opsb = .ok (b', ib) →
      ia = ib ∧ Twin a' b' :=
  fun opsa opsb hops _ _ _ _ _ _ ha hb t _ => twin_lockstep opsa opsb hops ha hb t

theorem twin_len {a b : World} (ha : Inv a) (hb : Inv b) (t : Twin a b) : a.len = b.len := by
  obtain ⟨na, la, ma⟩ := len_counts_entities ha
  obtain ⟨nb, lb, mb⟩ := len_counts_entities hb
  rw [← la, ← lb]
  refine ((List.perm_ext_iff_of_nodup na nb).mpr fun id => ?_).length_eq
  rw [ma id, mb id, entEqv_isSome (t.map id)]

/-- Stated from `a` to `b`; the converse is this at `t.symm` (`C06_lockstep_queries_rev`). -/
theorem twin_query {a b : World} (ha : Inv a) (hb : Inv b) (t : Twin a b) (vs : List View) (f : Filter) :
    ∃ ra rb, a.query vs f = .ok ra ∧ b.query vs f = .ok rb ∧
      ∀ row ∈ ra, ∃ id vals vals', a.entity id = some vals ∧ b.entity id = some vals' ∧
        rowEqv vals vals' = true ∧ row = vs.map (Spec.cellOf ⟨id, vals⟩) ∧
        vs.map (Spec.cellOf ⟨id, vals'⟩) ∈ rb := by
  refine ⟨_, _, query_eq_spec ha vs f, query_eq_spec hb vs f, fun row hrow => ?_⟩
  obtain ⟨id, vals, he, hm, rfl⟩ := (mem_query_iff ha vs f row).mp hrow
  obtain ⟨vals', he', heqv⟩ := entEqv_some (he ▸ t.map id)
  exact ⟨id, vals, vals', he, he', heqv, rfl,
    (mem_query_iff hb vs f _).mpr ⟨id, vals', he', by rw [← t.n, ← maskOf_eqv a.n heqv]; exact hm, rfl⟩⟩

/-! ### a world and its copy are twins -/

theorem reloc_abs (a : Alloc) (g : Nat → Nat) : (a.reloc g).abs = a.abs := by
  simp [Alloc.abs, Alloc.reloc, Slot.reloc, Function.comp]

theorem Copy.twin {φ : Val → Val} {g : Nat → Nat} {s c : World} (cp : Copy φ g s c) (hs : Inv s)
    (hφ : ∀ v ∈ s.values, v.eqv (φ v) = true) : Twin s c := by
  refine ⟨cp.n.symm, by rw [cp.alloc, reloc_abs], fun id => ?_⟩
  rw [cp.entity hs id]
  cases he : s.entity id with
  | none => rfl
  | some r => exact rowEqv_map r fun v hv => hφ v (mem_values_of_entity hs he hv)

end Brood
