/-
  Queries: `World.query` (archetype filtering + column selection by the identifier bit walk)
  returns exactly what the reference `Spec.query` returns on the map the world denotes; it never
  reads an absent column, a wrong column or a row out of range (`query_eq_spec`, on `w.ents`;
  `mem_query_iff` says which rows that is).  Same for single-entity queries (`entryQuery_eq`).
-/
import BroodModel.Lemmas.Entity

namespace Brood
open Alloc
open Serde (ArchShape)

/-! ### rows as association lists -/

theorem find_ty_of_getElem {l : List Val} {k : Nat} {x : Val} (hs : (l.map (·.ty)).Pairwise (· < ·))
    (hk : l[k]? = some x) : l.find? (fun v => v.ty == x.ty) = some x := by
  rw [eq_take_cons_drop hk, List.find?_append,
    List.find?_cons_of_pos (p := fun v : Val => v.ty == x.ty) (a := x) (beq_self_eq_true _),
    List.find?_eq_none.mpr fun y hy => by simpa using Nat.ne_of_lt ((sorted_split hs hk).1 y hy)]
  rfl

theorem find_ty_none {l : List Val} {c : Nat} (h : ∀ v ∈ l, v.ty ≠ c) :
    l.find? (fun v => v.ty == c) = none :=
  List.find?_eq_none.mpr fun v hv => by simpa using h v hv

theorem maskOf_row {n : Nat} {a : Arch} (ok : ArchShape n a) {r : Nat} (hr : r < a.ids.length) :
    Spec.maskOf n (a.row r) = a.mask := by
  refine List.ext_getElem? fun c => ?_
  rw [Spec.maskOf, List.getElem?_map]
  by_cases hc : c < n
  · have hcl : c < a.mask.length := ok.mask_len ▸ hc
    rw [List.getElem?_range hc, Option.map_some, row_any_ty ok hr, has_eq, List.getElem?_eq_getElem hcl]
    rfl
  · rw [List.getElem?_eq_none (by simpa using hc), List.getElem?_eq_none (by rw [ok.mask_len]; omega)]
    rfl

/-! ### one cell, one row -/

theorem viewCell_eq {n : Nat} {a : Arch} (ok : ArchShape n a) {r : Nat} {id : Ident}
    (hid : a.ids[r]? = some id) {v : View} (hf : v.filter a.mask = true) :
    viewCell a r v = .ok (Spec.cellOf ⟨id, a.row r⟩ v) := by
  have hr : r < a.ids.length := (List.getElem?_eq_some_iff.mp hid).1
  -- `Spec.cellOf` has one arm for the four views of a component: `.ref c` stands for all of them
  have present : ∀ c, a.mask.has c = true → compRead a r c = .ok (Spec.cellOf ⟨id, a.row r⟩ (.ref c)) := by
    intro c hc
    obtain ⟨col, old, h1, h2, rfl⟩ := cell_typed ok hc hr
    simp only [compRead, h1, h2, if_true, Spec.cellOf,
      find_ty_of_getElem (row_sorted ok hr) (row_getElem ok hr h1 h2)]
  have absent : ∀ c, a.mask.has c = false → Spec.cellOf ⟨id, a.row r⟩ (.ref c) = .absent := by
    intro c hc
    simp only [Spec.cellOf, find_ty_none (row_ty_ne ok hr hc)]
  cases v with
  | ident => simp only [viewCell, hid, Spec.cellOf]
  | ref c | «mut» c =>
    have hc : a.mask.has c = true := hf
    rw [viewCell, if_pos hc]
    exact present c hc
  | oref c | omut c =>
    rw [viewCell]
    cases hc : a.mask.has c with
    | true => exact present c hc
    | false => exact congrArg Out.ok (absent c hc).symm

theorem rowCells_eq {n : Nat} {a : Arch} (ok : ArchShape n a) {r : Nat} {id : Ident}
    (hid : a.ids[r]? = some id) (vs : List View) (hf : viewsFilter a.mask vs = true) :
    rowCells a r vs = .ok (vs.map (Spec.cellOf ⟨id, a.row r⟩)) := by
  induction vs with
  | nil => rfl
  | cons v vs ih =>
    unfold viewsFilter at hf
    simp only [List.all_cons, Bool.and_eq_true] at hf
    simp only [rowCells, viewCell_eq ok hid hf.1, ih (by unfold viewsFilter; exact hf.2), List.map_cons]

theorem archRows_eq {n : Nat} {a : Arch} (ok : ArchShape n a) (vs : List View)
    (hf : viewsFilter a.mask vs = true) (k : Nat) (hk : k ≤ a.ids.length) :
    archRows a vs k = .ok ((a.ents.take k).map fun e => vs.map (Spec.cellOf e)) := by
  induction k with
  | zero => rfl
  | succ k ih =>
    obtain ⟨id, hid⟩ : ∃ id, a.ids[k]? = some id := ⟨_, List.getElem?_eq_getElem hk⟩
    simp only [archRows, ih (Nat.le_of_succ_le hk), rowCells_eq ok hid vs hf]
    rw [List.take_add_one, Arch.ents_getElem?_eq_some hid, List.map_append]
    rfl

/-! ### the whole query -/

theorem specMatches_eq (vs : List View) (f : Filter) (m : Mask) :
    specMatches vs f m = (viewsFilter m vs && f.eval m) := rfl

theorem queryArchs_eq {n : Nat} (vs : List View) (f : Filter) (l : List Arch)
    (hok : ∀ a ∈ l, ArchShape n a) :
    queryArchs vs f l = .ok (((l.flatMap Arch.ents).filter
      (fun e => specMatches vs f (Spec.maskOf n e.vals))).map (fun e => vs.map (Spec.cellOf e))) := by
  induction l with
  | nil => rfl
  | cons a as ih =>
    have ok := hok a (by simp)
    simp only [queryArchs, ih (fun b hb => hok b (by simp [hb]))]
    -- every entity of `a` has `a`'s mask
    have hmask : ∀ e ∈ a.ents, specMatches vs f (Spec.maskOf n e.vals) =
        (viewsFilter a.mask vs && f.eval a.mask) := by
      intro e he
      obtain ⟨r, hr, hv⟩ := Arch.mem_ents.mp he
      rw [← hv, maskOf_row ok (List.getElem?_eq_some_iff.mp hr).1, specMatches_eq]
    rw [List.flatMap_cons, List.filter_append, List.map_append]
    cases hm : (viewsFilter a.mask vs && f.eval a.mask) with
    | true =>
      rw [if_pos rfl, archRows_eq ok vs (Bool.and_eq_true_iff.mp hm).1 _ (Nat.le_refl _),
        List.take_of_length_le (Nat.le_of_eq a.ents_length),
        List.filter_eq_self.mpr fun e he => (hmask e he).trans hm]
    | false =>
      have : a.ents.filter (fun e => specMatches vs f (Spec.maskOf n e.vals)) = [] :=
        List.filter_eq_nil_iff.mpr fun e he => by rw [hmask e he, hm]; exact Bool.false_ne_true
      rw [if_neg Bool.false_ne_true, this]
      rfl

theorem query_eq_spec {w : World} (hi : Inv w) (vs : List View) (f : Filter) :
    w.query vs f = .ok (Spec.query w.n ⟨w.ents, w.res, []⟩ vs f) :=
  queryArchs_eq vs f w.archs (fun _ ha => (hi.archOk ha).shape)

theorem mem_query_iff {w : World} (hi : Inv w) (vs : List View) (f : Filter) (row : List Cell) :
    row ∈ Spec.query w.n ⟨w.ents, w.res, []⟩ vs f ↔ ∃ id vals, w.entity id = some vals ∧
      specMatches vs f (Spec.maskOf w.n vals) = true ∧ row = vs.map (Spec.cellOf ⟨id, vals⟩) := by
  simp only [Spec.query, List.mem_map, List.mem_filter]
  constructor
  · rintro ⟨e, ⟨he, hm⟩, rfl⟩
    exact ⟨e.id, e.vals, (mem_ents_iff hi e.id e.vals).mp he, hm, rfl⟩
  · rintro ⟨id, vals, he, hm, rfl⟩
    exact ⟨⟨id, vals⟩, ⟨(mem_ents_iff hi id vals).mpr he, hm⟩, rfl⟩

/-! ### single-entity queries -/

theorem entryQuery_eq {w : World} (hi : Inv w) (id : Ident) (vs : List View) (f : Filter) :
    w.entryQuery id vs f = .ok
      (match w.entity id with
       | none => none
       | some vals =>
         if specMatches vs f (Spec.maskOf w.n vals) then some (vs.map (Spec.cellOf ⟨id, vals⟩)) else none) := by
  unfold World.entryQuery
  cases hg : w.alloc.get id with
  | none => simp [entity_none_of_dead hg]
  | some loc =>
    obtain ⟨a, la, hh⟩ := hi.liveAt hg
    simp only [← hh, la.find, entity_of_liveAt la, maskOf_row la.ok.shape la.row_lt, specMatches_eq,
      Bool.and_comm (f.eval a.mask)]
    cases hm : (viewsFilter a.mask vs && f.eval a.mask) with
    | true => simp only [if_true, rowCells_eq la.ok.shape la.row vs (Bool.and_eq_true_iff.mp hm).1]
    | false => rfl

theorem entriesQuery_eq {w : World} (evs : List View) (id : Ident) (subs : List View)
    (f : Filter) (hsub : subs.all (fun s => evs.any (fun v => subViewable s v)) = true) :
    w.entriesQuery evs id subs f = w.entryQuery id subs f := by
  unfold World.entriesQuery World.entryQuery
  simp only [hsub, if_true]

end Brood
