/-
  Every world operation acts on the entity allocator only through three primitives applied to
  live identifiers — `allocate`, `release`, `setLoc` — and by reordering the free queue (`clear`
  sorts the slots it freed), so any allocator predicate those primitives preserve is preserved by
  every world operation and every history (a simulation of world histories by allocator histories,
  in predicate-transformer form).  This lifts the allocator-level identifier theorems (C02) to
  worlds: `run_le`.  `clear_alloc_eq`: the allocator `clear` leaves, in closed form.
-/
import BroodModel.Lemmas.Ops

namespace Brood
open Alloc

/-- A predicate on allocators that re-pointing a live identifier preserves. -/
structure SPres (P : Alloc → Prop) : Prop where
  setLoc : ∀ {a a' : Alloc} {id : Ident} {loc : Loc}, AInv a → P a → Live a id →
    a.setLoc id loc = .ok a' → P a'

/-- A predicate on allocators that the three primitives, and a reordering of the free queue, preserve. -/
structure APres (P : Alloc → Prop) : Prop where
  allocate : ∀ {a a' : Alloc} {loc : Loc} {id : Ident}, AInv a → P a → a.allocate loc = .ok (a', id) → P a'
  release : ∀ {a a' : Alloc} {id : Ident}, AInv a → P a → Live a id → a.release id = .ok a' → P a'
  setLoc : ∀ {a a' : Alloc} {id : Ident} {loc : Loc}, AInv a → P a → Live a id →
    a.setLoc id loc = .ok a' → P a'
  /-- reordering the free queue (what `clear` does to the slots it freed) -/
  reorder : ∀ {a : Alloc} {free' : List Nat}, AInv a → P a → free'.Perm a.free → P { a with free := free' }

theorem APres.toSPres {P : Alloc → Prop} (hp : APres P) : SPres P := ⟨hp.setLoc⟩

theorem APres.freeAll {P : Alloc → Prop} (hp : APres P) (ids : List Ident) {a a' : Alloc} (hi : AInv a)
    (pa : P a) (hpw : ids.Pairwise (fun x y => x.index ≠ y.index)) (hl : ∀ id ∈ ids, Live a id)
    (e : World.freeAll a ids = .ok a') : AInv a' ∧ P a' := by
  induction ids generalizing a with
  | nil =>
    cases e
    exact ⟨hi, pa⟩
  | cons id ids ih =>
    have hlid := hl id List.mem_cons_self
    obtain ⟨a1, h1⟩ := release_ok hlid
    simp only [World.freeAll, h1] at e
    obtain ⟨hid, hpw⟩ := List.pairwise_cons.mp hpw
    exact ih (release_inv hi hlid h1) (hp.release hi pa hlid h1) hpw
      (fun y hy => release_live hlid h1 (hl y (List.mem_cons_of_mem _ hy)) fun h => hid y hy (h ▸ rfl)) e

/-! ### what each operation does to the allocator -/

theorem Taken.spres {P : Alloc → Prop} (hp : SPres P) {w w1 : World} {id : Ident} {a : Arch} {r : Nat}
    (tk : Taken w id a r w1) (hi : AInv w.alloc) (pa : P w.alloc) : P w1.alloc :=
  let ⟨_, l, hl, e⟩ := tk.alloc
  hp.setLoc hi pa ⟨l, hl⟩ e

theorem Moved.spres {P : Alloc → Prop} (hp : SPres P) {w w' : World} {id : Ident} {a : Arch} {r : Nat}
    {m' : Mask} {cv : List Val} (mv : Moved w id a r m' cv w') (hi : AInv w.alloc) (pa : P w.alloc) :
    P w'.alloc := by
  obtain ⟨w1, w2, t, al, tk, af, -, hset, rfl⟩ := mv
  rw [af.alloc] at hset
  exact hp.setLoc tk.detached.ainv (tk.spres hp hi pa) tk.detached.live hset

theorem insert_alloc {w w' : World} {shape : List Nat} {vals : List Val} {nid : Ident} (hi : Inv w)
    (e : w.insert shape vals = .ok (w', nid)) : ∃ loc, w.alloc.allocate loc = .ok (w'.alloc, nid) := by
  obtain ⟨w1, a, al, af, -, hal, rfl⟩ := insert_cases hi e
  exact ⟨_, af.alloc ▸ hal⟩

theorem extend_alloc {w w' : World} {shape : List Nat} {rows : List (List Val)} {ids : List Ident} (hi : Inv w)
    (e : w.extend shape rows = .ok (w', ids)) :
    ∃ h start, w.alloc.allocateBatch h start rows.length = .ok (w'.alloc, ids) := by
  obtain ⟨w1, a, al, a', af, hal, -, rfl⟩ := extend_cases hi e
  exact ⟨_, _, af.alloc ▸ hal⟩

theorem clear_alloc {w w' : World} {order : List Mask} {drops : List Val} (hi : Inv w)
    (e : w.clear order = .ok (w', drops)) :
    ∃ ids al, (∀ y, y ∈ ids ↔ Live w.alloc y) ∧ ids.Pairwise (fun x y => x.index ≠ y.index) ∧
      World.freeAll w.alloc ids = .ok al ∧ w'.alloc = World.sortFreeFrom al w.alloc.free.length := by
  obtain ⟨al, hfree, rfl, -⟩ := clear_eq_ok e
  have hperm : ((w.visitOrder order).flatMap (·.ids)).Perm w.stored :=
    List.Perm.flatMap_right _ (visitOrder_perm w order)
  exact ⟨_, al, fun y => hperm.mem_iff.trans hi.mem_stored_iff,
    (hperm.pairwise_iff fun h => Ne.symm h).mpr hi.stored_pairwise, hfree, rfl⟩

theorem clear_alloc_eq {w w' : World} {order : List Mask} {drops : List Val} (hi : Inv w)
    (e : w.clear order = .ok (w', drops)) :
    w'.alloc = ⟨w.alloc.slots.map fun s => ⟨s.gen, none⟩,
      w.alloc.free ++ (List.range w.alloc.slots.length).filter fun i =>
        w.alloc.slots[i]?.any (·.loc.isSome)⟩ := by
  obtain ⟨ids, al, hl, hpw, hfree, hal⟩ := clear_alloc hi e
  obtain ⟨hq, hs⟩ := freeAll_eq_ok ids hfree
  have hmem : ∀ j, j ∈ ids.map (·.index) ↔ ∃ s, w.alloc.slots[j]? = some s ∧ s.loc.isSome = true := by
    intro j
    rw [List.mem_map, inUse_iff_live]
    exact exists_congr fun y => and_congr_left fun _ => hl y
  rw [hal]
  unfold World.sortFreeFrom
  simp only [Alloc.mk.injEq, hq, List.take_left, List.drop_left, List.append_cancel_left_eq]
  refine ⟨List.ext_getElem? fun j => ?_, mergeSort_eq_filter_range (List.pairwise_map.mpr hpw) fun j => ?_⟩
  · rw [hs j, List.getElem?_map]
    cases hj : w.alloc.slots[j]? with
    | none => simp
    | some s =>
      by_cases hin : j ∈ ids.map (·.index)
      · simp [hin]
      · have : s.loc = none := Option.not_isSome_iff_eq_none.mp fun h => hin ((hmem j).mpr ⟨s, hj, h⟩)
        rw [if_neg hin, Option.map_some, ← this]
  · rw [hmem j]
    cases hj : w.alloc.slots[j]? with
    | none => simp
    | some s => simp [(List.getElem?_eq_some_iff.mp hj).1]

/-! ### every operation, every history -/

/-- Operations that allocate and free nothing: they only re-point live identifiers. -/
def Op.movesOnly : Op → Bool
  | .add _ _ _ | .del _ _ | .write _ _ _ | .reserve _ | .shrink => true
  | _ => false

theorem step_spres {P : Alloc → Prop} (hp : SPres P) {w w' : World} (hi : Inv w) {op : Op}
    (hop : op.movesOnly = true) (pa : P w.alloc) (e : step w op = .ok w') : P w'.alloc := by
  cases op with
  | add id c v =>
    obtain ⟨_, h⟩ := fstOut_eq_ok e
    rcases entryAdd_cases hi h with ⟨-, rfl, -⟩ | ⟨a, r, -, ⟨-, old, o, -⟩ | ⟨-, -, mv⟩⟩
    · exact pa
    · rw [o.alloc]
      exact pa
    · exact mv.spres hp hi.ainv pa
  | del id c =>
    obtain ⟨_, h⟩ := fstOut_eq_ok e
    rcases entryRemove_cases hi h with ⟨-, rfl, -⟩ | ⟨a, r, -, ⟨-, rfl, -⟩ | ⟨-, -, mv⟩⟩
    · exact pa
    · exact pa
    · exact mv.spres hp hi.ainv pa
  | write id c v =>
    obtain ⟨_, h⟩ := fstOut_eq_ok e
    rcases write_cases hi h with ⟨-, rfl, -⟩ | ⟨a, r, -, ⟨-, rfl, -⟩ | ⟨-, old, o, -⟩⟩
    · exact pa
    · exact pa
    · rw [o.alloc]
      exact pa
  | reserve shape =>
    obtain ⟨_, af⟩ := reserve_cases hi e
    rw [af.alloc]
    exact pa
  | shrink =>
    cases e
    exact pa
  | insert _ _ | extend _ _ | remove _ | clear _ => cases hop

/-- **Every world operation preserves every allocator predicate that the three primitives and a
reordering of the free queue preserve.** -/
theorem step_apres {P : Alloc → Prop} (hp : APres P) {w w' : World} (hi : Inv w) {op : Op}
    (pa : P w.alloc) (e : step w op = .ok w') : P w'.alloc := by
  cases op with
  | insert shape vals =>
    obtain ⟨_, h⟩ := fstOut_eq_ok e
    obtain ⟨_, ha⟩ := insert_alloc hi h
    exact hp.allocate hi.ainv pa ha
  | extend shape rows =>
    obtain ⟨_, h⟩ := fstOut_eq_ok e
    obtain ⟨_, _, ha⟩ := extend_alloc hi h
    exact allocateBatch_pres hp.allocate hi.ainv pa ha
  | remove id =>
    obtain ⟨_, h⟩ := fstOut_eq_ok e
    rcases remove_cases hi h with ⟨-, rfl, -⟩ | ⟨a, r, w1, al, -, tk, hrel, rfl, -⟩
    · exact pa
    · exact hp.release tk.detached.ainv (tk.spres hp.toSPres hi.ainv pa) tk.detached.live hrel
  | clear order =>
    obtain ⟨_, h⟩ := fstOut_eq_ok e
    obtain ⟨ids, al, hl, hpw, hfree, hal⟩ := clear_alloc hi h
    obtain ⟨hi1, p1⟩ := hp.freeAll ids hi.ainv pa hpw (fun y hy => (hl y).mp hy) hfree
    rw [hal]
    exact hp.reorder hi1 p1 (sortFreeFrom_perm _ _)
  | add _ _ _ | del _ _ | write _ _ _ | reserve _ | shrink => exact step_spres hp.toSPres hi rfl pa e

/-- **Every history preserves every allocator predicate the primitives preserve.** -/
theorem run_apres {P : Alloc → Prop} (hp : APres P) (ops : List Op) :
    ∀ {w w' : World}, Inv w → P w.alloc → run w ops = .ok w' → P w'.alloc := by
  intro w w' hi pa e
  exact (run_lift (P := fun w => Inv w ∧ P w.alloc)
    (fun h e => ⟨step_inv h.1 e, step_apres hp h.1 h.2 e⟩) ops ⟨hi, pa⟩ e).2

theorem apres_le (a0 : Alloc) : APres (fun a => Le a0 a) where
  allocate _ h e := h.trans (allocate_le e)
  release _ h _ e := h.trans (release_le e)
  setLoc _ h hl e := h.trans (setLoc_le hl e)
  reorder _ h _ := h

theorem step_le {w w' : World} (hi : Inv w) {op : Op} (e : step w op = .ok w') :
    Le w.alloc w'.alloc :=
  step_apres (apres_le w.alloc) hi (Le.refl _) e

/-- Hence what was `Dead` stays `Dead` and a `Ghost` bound stays one (`Dead.mono`, `Ghost.mono`). -/
theorem run_le {w w' : World} (hi : Inv w) (ops : List Op) (e : run w ops = .ok w') :
    Le w.alloc w'.alloc :=
  run_apres (apres_le w.alloc) ops hi (Le.refl _) e

theorem remove_makes_dead {w w' : World} {id : Ident} {drops : List Val} (hi : Inv w)
    (hl : (w.alloc.get id).isSome) (e : w.remove id = .ok (w', drops)) : Dead w'.alloc id := by
  rcases remove_cases hi e with ⟨hg, -, -⟩ | ⟨a, r, w1, al, -, tk, hrel, rfl, -⟩
  · rw [hg] at hl
    cases hl
  · exact release_makes_dead tk.detached.live hrel

end Brood
