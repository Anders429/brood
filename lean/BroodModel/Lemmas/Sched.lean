/-
  The static half of scheduling (src/system/schedule/{stager,claim}), over the *generated* tables:
  the verifier and the merger table say, case by case, what the specification says, so the
  stager's decision is `stageConflict` (`stageDecision_eq`); then what the groups of the greedy
  stager satisfy.
-/
import BroodModel.SchedSpec
import BroodModel.Generated.Tables
import BroodModel.Lemmas.Basic

namespace Brood
open Static Generated

/-- Every (new kind, old claim) pair has an impl, and it cuts exactly when one side is mutable. -/
theorem verifier_table_exact (new : VK) (old : Old) (h : new ≠ .ident)
    (ho : old ≠ .claimed .ident) :
    lookupV verifierTable new old = some (if conflictKinds new old then .cut else .next) := by
  cases new with
  | ident => exact absurd rfl h
  | _ =>
    cases old with
    | notPresent => rfl
    | claimed k => cases k <;> first | rfl | exact absurd rfl ho

theorem merger_table_exact (a b : D2) :
    lookupM mergerTable a b = some (if a = .append ∧ b = .append then .append else .cut) := by
  cases a <;> cases b <;> rfl

/-! ### Decisions, characterised -/

/-- A claim list never mentions `ident` (`viewVK` drops it). -/
def NoIdent (l : List (Nat × VK)) : Prop := ∀ p ∈ l, p.2 ≠ .ident

theorem Task.claims_noIdent (t : Task) : NoIdent t.claims := by
  intro p hp
  obtain ⟨v, _, hv⟩ := List.mem_filterMap.mp hp
  cases v <;> cases hv <;> simp

theorem resVK_noIdent (l : List (Nat × Bool)) : NoIdent (l.map resVK) := by
  intro p hp
  obtain ⟨q, _, rfl⟩ := List.mem_map.mp hp
  cases hq : q.2 <;> simp [resVK, hq]

theorem oldOf_noIdent {u : List (Nat × VK)} (hu : NoIdent u) (c : Nat) : oldOf u c ≠ .claimed .ident := by
  unfold oldOf
  cases h : u.find? (fun p => p.1 == c) with
  | none => simp
  | some p => simpa using hu p (List.mem_of_find?_eq_some h)

theorem verify_eq {u new : List (Nat × VK)} (hu : NoIdent u) (hn : NoIdent new) :
    verify verifierTable u new = if claimsConflict u new then .cut else .append := by
  induction new with
  | nil => rfl
  | cons p rest ih =>
    obtain ⟨c, k⟩ := p
    have hk : k ≠ .ident := hn (c, k) (by simp)
    have ih := ih fun q hq => hn q (by simp [hq])
    rw [verify, verifier_table_exact k (oldOf u c) hk (oldOf_noIdent hu c)]
    rw [claimsConflict, List.any_cons]
    cases hc : conflictKinds k (oldOf u c)
    · exact ih
    · rfl

theorem claimsDecision_eq {new : List (Nat × VK)} (hn : NoIdent new) (us : List (List (Nat × VK)))
    (hus : ∀ u ∈ us, NoIdent u) :
    claimsDecision verifierTable new us = if us.any (fun u => claimsConflict u new) then .cut else .append := by
  induction us with
  | nil => rfl
  | cons u us ih =>
    have ih := ih fun v hv => hus v (by simp [hv])
    rw [claimsDecision, verify_eq (hus u (by simp)) hn]
    rw [List.any_cons]
    cases hc : claimsConflict u new
    · exact ih
    · rfl

/-- **The stager's decision is exactly the specification**: cut iff the new task conflicts, on a
component or a resource, with some task already in the stage. -/
theorem stageDecision_eq (stage : List Task) (t : Task) :
    stageDecision verifierTable mergerTable stage t = if stageConflict stage t then .cut else .append := by
  have hc := claimsDecision_eq (Task.claims_noIdent t) (stage.map Task.claims)
    (List.forall_mem_map.mpr fun a _ => Task.claims_noIdent a)
  have hr := claimsDecision_eq (resVK_noIdent t.res) (stage.map fun u => u.res.map resVK)
    (List.forall_mem_map.mpr fun a _ => resVK_noIdent a.res)
  simp only [List.any_map, Function.comp_def] at hc hr
  rw [stageDecision, hc, hr, merger_table_exact, stageConflict]
  cases stage.any (fun u => claimsConflict u.claims t.claims) <;>
    cases stage.any (fun u => claimsConflict (u.res.map resVK) (t.res.map resVK)) <;> rfl

theorem stageDecision_append_iff (stage : List Task) (t : Task) :
    stageDecision verifierTable mergerTable stage t = .append ↔ stageConflict stage t = false := by
  rw [stageDecision_eq]
  cases stageConflict stage t <;> simp

theorem stageDecision_cut_iff (stage : List Task) (t : Task) :
    stageDecision verifierTable mergerTable stage t = .cut ↔ stageConflict stage t = true := by
  rw [stageDecision_eq]
  cases stageConflict stage t <;> simp

/-! ### The greedy stager

Each fact follows the recursion of `stagesAux`: the schedule is over (with the current group
empty, or not), or the next task opens the first group, is appended, or is cut off. -/

theorem stagesAux_flatten (tbl : List VRow) (mt : List (D2 × D2 × D2)) (ts cur : List Task) :
    (stagesAux tbl mt ts cur).flatten = cur ++ ts := by
  fun_induction stagesAux tbl mt ts cur with
  | case1 cur h => simpa using h
  | case2 => rfl
  | case3 t ts cur h ih => simpa [List.isEmpty_iff.mp h] using ih
  | case4 t ts cur _ _ ih => simpa using ih
  | case5 t ts cur _ _ ih => simpa using ih

theorem stages_flatten (tbl : List VRow) (mt : List (D2 × D2 × D2)) (ts : List Task) :
    (stages tbl mt ts).flatten = ts :=
  stagesAux_flatten tbl mt ts []

theorem stagesAux_nonempty (tbl : List VRow) (mt : List (D2 × D2 × D2)) (ts cur : List Task) :
    ∀ g ∈ stagesAux tbl mt ts cur, g ≠ [] := by
  fun_induction stagesAux tbl mt ts cur with
  | case1 => simp
  | case2 cur h => simpa using h
  | case3 t ts cur _ ih => exact ih
  | case4 t ts cur _ _ ih => exact ih
  | case5 t ts cur h _ ih =>
    intro g hg
    rcases List.mem_cons.mp hg with rfl | hg
    · simpa using h
    · exact ih g hg

/-- A stage is *compatible* when every task is conflict-free against all tasks before it. -/
def Compatible (ts : List Task) : Prop :=
  ∀ i, ∀ h : i < ts.length, stageConflict (ts.take i) ts[i] = false

theorem compatible_nil : Compatible [] := fun _ h => absurd h (Nat.not_lt_zero _)

theorem compatible_append {cur : List Task} {t : Task} (hc : Compatible cur)
    (ht : stageConflict cur t = false) : Compatible (cur ++ [t]) := by
  intro i hi
  rcases Nat.lt_or_ge i cur.length with hlt | hge
  · rw [List.take_append_of_le_length (Nat.le_of_lt hlt), List.getElem_append_left hlt]
    exact hc i hlt
  · obtain rfl : i = cur.length := by
      rw [List.length_append, List.length_singleton] at hi
      omega
    simpa using ht

theorem compatible_singleton (t : Task) : Compatible [t] := compatible_append compatible_nil rfl

theorem stagesAux_compatible (ts cur : List Task) (hc : Compatible cur) :
    ∀ g ∈ stagesAux verifierTable mergerTable ts cur, Compatible g := by
  fun_induction stagesAux verifierTable mergerTable ts cur with
  | case1 => simp
  | case2 => simpa using hc
  | case3 t ts cur _ ih => exact ih (compatible_singleton t)
  | case4 t ts cur _ h ih => exact ih (compatible_append hc ((stageDecision_append_iff cur t).mp h))
  | case5 t ts cur _ _ ih => exact List.forall_mem_cons.mpr ⟨hc, ih (compatible_singleton t)⟩

theorem stages_compatible (ts : List Task) :
    ∀ g ∈ stages verifierTable mergerTable ts, Compatible g :=
  stagesAux_compatible ts [] compatible_nil

/-- C12: nothing is serialised without a conflict. -/
def Justified : List (List Task) → Prop
  | g1 :: g2 :: rest =>
    (∃ t ts', g2 = t :: ts' ∧ stageConflict g1 t = true) ∧ Justified (g2 :: rest)
  | _ => True

theorem stagesAux_head (tbl : List VRow) (mt : List (D2 × D2 × D2)) (ts cur : List Task) (hne : cur ≠ []) :
    ∃ more rest, stagesAux tbl mt ts cur = (cur ++ more) :: rest := by
  fun_induction stagesAux tbl mt ts cur with
  | case1 cur h => exact absurd (List.isEmpty_iff.mp h) hne
  | case2 cur _ => exact ⟨[], [], by simp⟩
  | case3 t ts cur h _ => exact absurd (List.isEmpty_iff.mp h) hne
  | case4 t ts cur _ _ ih =>
    obtain ⟨more, rest, e⟩ := ih (by simp)
    exact ⟨t :: more, rest, by simpa using e⟩
  | case5 t ts cur _ _ _ => exact ⟨[], _, by rw [List.append_nil]⟩

theorem stagesAux_justified (ts cur : List Task) :
    Justified (stagesAux verifierTable mergerTable ts cur) := by
  fun_induction stagesAux verifierTable mergerTable ts cur with
  | case1 => trivial
  | case2 => trivial
  | case3 t ts cur _ ih => exact ih
  | case4 t ts cur _ _ ih => exact ih
  | case5 t ts cur _ h ih =>
    -- the group after the cut starts with `t`, the task the stager refused to append
    obtain ⟨more, rest, e⟩ := stagesAux_head _ _ ts [t] (by simp)
    rw [e] at ih ⊢
    exact ⟨⟨t, more, rfl, (stageDecision_cut_iff cur t).mp h⟩, ih⟩

end Brood
