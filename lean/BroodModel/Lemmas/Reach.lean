/-
  The worlds the public API can reach over several worlds (`Reachable`), and that each of them
  satisfies the invariant.
-/
import BroodModel.Lemmas.CloneFrom
import BroodModel.Lemmas.DeInv

namespace Brood

/-- Worlds reachable through the public API: from the empty world by single-world operations, by
cloning a reachable world, by `clone_from` between reachable worlds of one registry, or as the
result of deserializing any token stream whatsoever. -/
inductive Reachable : World → Prop
  | init (n : Nat) (res : List Val) : Reachable (World.init n res)
  | step {w w' : World} (op : Op) : Reachable w → step w op = .ok w' → Reachable w'
  | clone {w w' : World} (e next : Nat) : Reachable w → w.clone e next = .ok w' → Reachable w'
  | cloneFrom {d s fin : World} {drops : List Val} (e : Nat) : Reachable d → Reachable s → d.n = s.n →
      World.cloneFrom d s e = .ok (fin, drops) → Reachable fin
  | deserialize {k : Kinds} {hr : Bool} {n nres e next : Nat} {toks : List Serde.Tok} {w : World} :
      Serde.deserialize k hr n nres e next toks = .ok w → Reachable w

theorem reachable_inv {w : World} (h : Reachable w) : Inv w := by
  induction h with
  | init n res => exact inv_init n res
  | step op _ e ih => exact step_inv ih e
  | clone e next _ hc ih => exact clone_eq_ok hc ▸ cloneWorld_inv ih e next
  | cloneFrom e _ _ hn hc ihd ihs => exact (cloneFrom_eq_ok hc).1 ▸ cloneFrom_inv ihd ihs hn e
  | deserialize hd => exact Serde.deserialize_inv hd

end Brood
