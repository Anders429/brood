/-
  Changes to all tables at once: replacing every table by a function of itself (`World::clear`,
  writes through a query), and erasing the empty ones (`shrink_to_fit`).
-/
import BroodModel.Lemmas.Steps

namespace Brood
open Alloc
open Serde (ArchShape)

/-! ### every table replaced by a function of itself -/

theorem findArch_mapArchs {w : World} (g : Arch → Arch) (hh : ∀ a, (g a).handle = a.handle) (h : Nat) :
    ({ w with archs := w.archs.map g } : World).findArch h = (w.findArch h).map g :=
  find_map_handle g hh w.archs h

theorem Inv.mapArchs {w : World} (hi : Inv w) (g : Arch → Arch) (hh : ∀ a, (g a).handle = a.handle)
    (hm : ∀ a, (g a).mask = a.mask) (hids : ∀ a, (g a).ids = a.ids)
    (hs : ∀ a ∈ w.archs, ArchShape w.n (g a)) : Inv { w with archs := w.archs.map g } := by
  refine Inv.of_halves (hi.tables.mapArchs g (fun a _ => hh a) (fun a _ => hm a) hs)
    (hi.linked.congr rfl (fun l => ?_) ?_)
  · unfold World.idAt
    rw [findArch_mapArchs g hh]
    cases w.findArch l.arch <;> simp [hids]
  · show w.len = ((w.archs.map g).map (·.ids.length)).sum
    rw [List.map_map, (funext fun a => by simp [hids] : (·.ids.length) ∘ g = (·.ids.length))]
    exact hi.len

/-! ### `clear` -/

theorem freeAll_eq_ok (ids : List Ident) {al al' : Alloc} (e : World.freeAll al ids = .ok al') :
    al'.free = al.free ++ ids.map (·.index) ∧
      ∀ j, al'.slots[j]? =
        if j ∈ ids.map (·.index) then (al.slots[j]?).map (fun s => ⟨s.gen, none⟩) else al.slots[j]? := by
  induction ids generalizing al with
  | nil => cases e; simp
  | cons y ys ih =>
    rw [World.freeAll] at e
    split at e
    next => cases e
    next a1 h1 =>
    obtain ⟨s, hs, rfl⟩ := release_eq_ok h1
    obtain ⟨h2, h4⟩ := ih e
    refine ⟨by rw [h2, List.append_assoc]; rfl, fun j => ?_⟩
    rw [h4 j, SetSlot.set hs ⟨s.gen, none⟩ (al.free ++ [y.index]) j]
    simp only [List.map_cons, List.mem_cons]
    by_cases hjy : j = y.index
    · subst hjy
      simp only [true_or, if_true, hs, Option.map_some, ite_self]
    · simp only [hjy, if_false, false_or]

theorem freeAll_live (ids : List Ident) {al : Alloc} : AInv al → ids.Nodup → (∀ y ∈ ids, Live al y) →
    ∃ al', World.freeAll al ids = .ok al' ∧ AInv al' ∧ ∀ x, al'.get x = if x ∈ ids then none else al.get x := by
  induction ids generalizing al with
  | nil => exact fun hi _ _ => ⟨al, rfl, hi, by simp⟩
  | cons y ys ih =>
    intro hi hnd hl
    obtain ⟨al1, e⟩ := release_ok (hl y (by simp))
    have hg := get_release (hl y (by simp)) e
    obtain ⟨hy, hnd⟩ := List.nodup_cons.mp hnd
    obtain ⟨al', e', hi', hg'⟩ := ih (release_inv hi (hl y (by simp)) e) hnd fun z hz =>
      release_live (hl y (by simp)) e (hl z (by simp [hz])) fun h => hy (h ▸ hz)
    refine ⟨al', by simp [World.freeAll, e, e'], hi', fun x => ?_⟩
    rw [hg', hg]
    by_cases hx : x = y <;> simp [hx]

/-- `clear` over an explicit visiting list. -/
def World.clearWith (w : World) (visit : List Arch) : Out (World × List Val) :=
  match World.freeAll w.alloc (visit.flatMap (·.ids)) with
  | .ub e => .ub e
  | .ok al =>
    .ok ({ w with archs := w.archs.map Arch.cleared, alloc := al, len := 0 }, visit.flatMap Arch.values)

theorem visitOrder_perm (w : World) (order : List Mask) : (w.visitOrder order).Perm w.archs :=
  List.mergeSort_perm _ _

theorem clear_eq_clearWith (w : World) (order : List Mask) :
    w.clearRaw order = w.clearWith (w.visitOrder order) := rfl

/-- `clear` = the column loop followed by sorting the slots it freed. -/
theorem clear_eq_ok {w w' : World} {order : List Mask} {drops : List Val}
    (e : w.clear order = .ok (w', drops)) :
    ∃ al, World.freeAll w.alloc ((w.visitOrder order).flatMap (·.ids)) = .ok al ∧
      w' = { w with archs := w.archs.map Arch.cleared,
                    alloc := World.sortFreeFrom al w.alloc.free.length, len := 0 } ∧
      drops = (w.visitOrder order).flatMap Arch.values := by
  unfold World.clear at e
  split at e
  · cases e
  next h =>
    cases e
    simp only [World.clearRaw] at h
    split at h <;> cases h
    exact ⟨_, ‹_›, rfl, rfl⟩

theorem clear_cases {w w' : World} {order : List Mask} {drops : List Val}
    (e : w.clear order = .ok (w', drops)) :
    w'.archs = w.archs.map Arch.cleared ∧ w'.len = 0 ∧ w'.res = w.res ∧
      drops = (w.visitOrder order).flatMap Arch.values := by
  obtain ⟨al, -, rfl, rfl⟩ := clear_eq_ok e
  exact ⟨rfl, rfl, rfl, rfl⟩

/-- `visit`: the order in which the table iterator visits the archetypes, any permutation. -/
theorem clearWith_total {w : World} (hi : Inv w) {visit : List Arch} (hp : visit.Perm w.archs) :
    ∃ w' drops, w.clearWith visit = .ok (w', drops) ∧ Inv w' := by
  have hperm : (visit.flatMap (·.ids)).Perm w.stored := List.Perm.flatMap_right _ hp
  have hnd : w.stored.Nodup := hi.stored_pairwise.imp fun h e => h (congrArg _ e)
  obtain ⟨al', e, hal, hget⟩ := freeAll_live _ hi.ainv (hperm.nodup_iff.mpr hnd)
    fun y hy => hi.mem_stored_iff.mp (hperm.mem_iff.mp hy)
  refine ⟨{ w with archs := w.archs.map Arch.cleared, alloc := al', len := 0 }, visit.flatMap Arch.values,
    by simp only [World.clearWith, e], Inv.of_halves
    ((hi.tables.mapArchs Arch.cleared (fun _ _ => rfl) (fun _ _ => rfl)
      fun a ha => (hi.archOk ha).shape.cleared).of_eq rfl) ⟨hal, fun x l => ?_, ?_⟩⟩
  · have h1 : al'.get x = none := by
      rw [hget]; split
      · rfl
      · rename_i hx
        cases hg : w.alloc.get x with
        | none => rfl
        | some l => exact absurd (hperm.mem_iff.mpr (hi.mem_stored_iff.mpr ⟨l, hg⟩)) hx
    have h2 : ({ w with archs := w.archs.map Arch.cleared, alloc := al', len := 0 } : World).idAt l = none := by
      unfold World.idAt World.findArch
      rw [find_map_handle Arch.cleared fun _ => rfl]
      cases w.archs.find? _ <;> rfl
    simp [h1, h2]
  · show 0 = ((w.archs.map Arch.cleared).map (·.ids.length)).sum
    rw [List.map_map]
    exact (sum_map_eq_zero fun _ _ => rfl).symm

theorem sortFreeFrom_perm (a : Alloc) (n : Nat) : (World.sortFreeFrom a n).free.Perm a.free := by
  have := (List.mergeSort_perm (a.free.drop n) (fun x y => decide (x ≤ y))).append_left (a.free.take n)
  rwa [List.take_append_drop] at this

theorem Alloc.AInv.perm_free {a : Alloc} (h : AInv a) {free' : List Nat} (hp : free'.Perm a.free) :
    AInv ⟨a.slots, free'⟩ :=
  ⟨hp.nodup_iff.mpr h.nodup, fun i hi => h.inactive i (hp.mem_iff.mp hi),
    fun i s hs hl => hp.mem_iff.mpr (h.listed i s hs hl)⟩

theorem inv_perm_free {w : World} (hi : Inv w) {free' : List Nat} (hp : free'.Perm w.alloc.free) :
    Inv { w with alloc := { w.alloc with free := free' } } :=
  Inv.of_halves (hi.tables.of_eq rfl) ⟨hi.ainv.perm_free hp, hi.linked.get_iff, hi.len⟩

/-- **`World::clear` never fails and preserves the invariant**, for every observed table order. -/
theorem clear_total {w : World} (hi : Inv w) (order : List Mask) :
    ∃ w' drops, w.clear order = .ok (w', drops) ∧ Inv w' := by
  obtain ⟨w1, d, h1, hi1⟩ := clearWith_total hi (visitOrder_perm w order)
  refine ⟨_, d, ?_, inv_perm_free hi1 (sortFreeFrom_perm _ w.alloc.free.length)⟩
  unfold World.clear
  rw [clear_eq_clearWith, h1]
  rfl

theorem clear_ok {w : World} (hi : Inv w) (order : List Mask) : ∃ w' drops, w.clear order = .ok (w', drops) :=
  let ⟨w', drops, h, _⟩ := clear_total hi order
  ⟨w', drops, h⟩

theorem clear_inv {w w' : World} {order : List Mask} {drops : List Val} (hi : Inv w)
    (e : w.clear order = .ok (w', drops)) : Inv w' := by
  obtain ⟨w1, d1, h1, hi1⟩ := clear_total hi order
  cases h1.symm.trans e
  exact hi1

/-! ### `shrink_to_fit` -/

theorem find_filter_handle {l : List Arch} (hn : (l.map (·.handle)).Nodup) (q : Arch → Bool) (h : Nat) :
    (l.filter q).find? (fun a => a.handle == h) = (l.find? (fun a => a.handle == h)).filter q := by
  induction l with
  | nil => rfl
  | cons a as ih =>
    obtain ⟨ha, hn⟩ := List.nodup_cons.mp hn
    rw [List.filter_cons, List.find?_cons]
    by_cases hp : a.handle = h
    · have hnone : (as.filter q).find? (fun b => b.handle == h) = none :=
        List.find?_eq_none.mpr fun b hb => by
          have : b.handle ≠ a.handle := fun e => ha (List.mem_map.mpr ⟨b, (List.mem_filter.mp hb).1, e⟩)
          simpa [← hp] using this
      cases hq : q a <;> simp [hp, hq, hnone, Option.filter]
    · have hb : (a.handle == h) = false := by simpa using hp
      cases q a <;> simp [hb, ih hn]

theorem findArch_shrink {w : World} (hn : (w.archs.map (·.handle)).Nodup) (h : Nat) :
    w.shrinkToFit.findArch h = (w.findArch h).filter (fun a => !a.ids.isEmpty) :=
  find_filter_handle hn _ h

/-- The tables `shrink_to_fit` erases are empty, so no location and no surviving lookup entry names
them. -/
theorem shrink_inv {w : World} (hi : Inv w) : Inv w.shrinkToFit := by
  have hfind := findArch_shrink hi.handles_nodup
  -- handles are distinct, so a table's handle is among the erased ones iff the table is empty
  have hdead : ∀ a ∈ w.archs,
      ((w.archs.filter (fun a => a.ids.isEmpty)).map (·.handle)).contains a.handle = a.ids.isEmpty := by
    intro a ha
    rw [Bool.eq_iff_iff, List.contains_iff_mem, List.mem_map]
    refine ⟨fun ⟨b, hb, e⟩ => ?_, fun he => ⟨a, List.mem_filter.mpr ⟨ha, he⟩, rfl⟩⟩
    obtain ⟨hbm, hbe⟩ := List.mem_filter.mp hb
    cases (findArch_of_mem hi.handles_nodup hbm).symm.trans (e ▸ findArch_of_mem hi.handles_nodup ha)
    exact hbe
  have hlook : ∀ l : List (Mask × Nat), (∀ p ∈ l, lookupOk w p = true) →
      ∀ p ∈ l.filter (fun p => !((w.archs.filter (fun a => a.ids.isEmpty)).map (·.handle)).contains p.2),
        lookupOk w.shrinkToFit p = true := by
    intro l hl p hp
    obtain ⟨hpm, hpd⟩ := List.mem_filter.mp hp
    obtain ⟨a, hf, hm⟩ := lookup_mask (hl p hpm)
    rw [← (findArch_some hf).2, hdead a (findArch_some hf).1] at hpd
    simp only [lookupOk, hfind, hf, Option.filter, hpd, if_true, hm, beq_self_eq_true]
  refine Inv.of_halves
    ⟨fun a ha => ?_, (List.filter_sublist.map _).nodup hi.masks_nodup,
      (List.filter_sublist.map _).nodup hi.handles_nodup, hlook _ hi.typeIds,
      (List.filter_sublist.map _).nodup hi.typeIds_nodup, hlook _ hi.foreign⟩
    (hi.linked.congr rfl (fun l => ?_) ?_)
  · obtain ⟨ham, hne⟩ := List.mem_filter.mp ha
    obtain ⟨s, hlt, hf⟩ := hi.tables.shape a ham
    exact ⟨s, hlt, List.mem_filter.mpr ⟨hf, by rw [hdead a ham]; exact hne⟩⟩
  · unfold World.idAt
    rw [hfind]
    cases hf : w.findArch l.arch with
    | none => rfl
    | some a =>
      cases he : a.ids.isEmpty with
      | false => simp [Option.filter, he]
      | true => simp [Option.filter, List.isEmpty_iff.mp he]
  · show w.len = ((w.archs.filter (fun a => !a.ids.isEmpty)).map (·.ids.length)).sum
    -- an empty table adds nothing to the sum
    rw [hi.len, sum_filter_if (fun a : Arch => a.ids.length) (fun a => a.ids.isEmpty)]
    refine congrArg List.sum (List.map_congr_left fun a _ => ?_)
    split
    next he => rw [List.isEmpty_iff.mp he]; rfl
    next => rfl

end Brood
