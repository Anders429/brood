/-
  `World::clone`: what it returns is a copy of the original under the renaming that sends the
  handle of the `k`-th table to `next + k` (`cloneWorld_copy`), so the clone satisfies the invariant,
  denotes the same map (values copied) and compares equal to the original; and cloning never
  reaches an unchecked access with a violated precondition, because the handle map built during
  the clone covers every table (`clone_ok`).
-/
import BroodModel.Lemmas.Copy

namespace Brood
open Alloc Serde

theorem find_handle_lt_none (l : List Arch) (base : Nat)
    (h : ∀ (j : Nat) (b : Arch), l[j]? = some b → b.handle = base + j)
    {hd : Nat} (hlt : hd < base) : l.find? (fun b => b.handle == hd) = none := by
  apply List.find?_eq_none.mpr
  intro b hb
  obtain ⟨j, hj⟩ := List.getElem?_of_mem hb
  have := h j b hj
  simp only [beq_iff_eq]
  omega

/-! ### the tables and the handle map of a clone -/

def cloneHs (w : World) (next : Nat) : List Nat := (List.range w.archs.length).map (next + ·)

/-- The (old handle, new handle) pairs `Archetypes::clone` records while it copies the tables; the
lookup tables and `Allocator::clone` are then mapped through them. -/
def clonePairs (w : World) (next : Nat) : List (Nat × Nat) :=
  (w.archs.map (·.handle)).zip (cloneHs w next)

theorem cloneHs_getElem? (w : World) (next k : Nat) :
    (cloneHs w next)[k]? = if k < w.archs.length then some (next + k) else none := by
  unfold cloneHs
  rw [List.getElem?_map]
  by_cases h : k < w.archs.length
  · simp [h]
  · simp [h]

theorem cloneHs_nodup (w : World) (next : Nat) : (cloneHs w next).Nodup := by
  have : (cloneHs w next).Pairwise (· < ·) :=
    List.pairwise_lt_range.map _ (by intro a b h; omega)
  exact this.imp (by intro a b h; omega)

theorem zipWith_cloneHs (w : World) (e next : Nat) :
    List.zipWith (fun a h' => World.Arch.cloneWith e h' a) w.archs (cloneHs w next) =
      renumbered (cloneVal e) next w.archs := by
  apply List.ext_getElem?
  intro k
  rw [List.getElem?_zipWith, cloneHs_getElem?, renumbered_getElem?]
  by_cases h : k < w.archs.length
  · simp [h, cloneWith_eq]
  · simp [h]

theorem clonePairs_getElem? {w : World} (next : Nat) {k : Nat} {a : Arch} (ha : w.archs[k]? = some a) :
    (clonePairs w next)[k]? = some (a.handle, next + k) := by
  refine List.getElem?_zip_eq_some.mpr ⟨?_, ?_⟩
  · rw [List.getElem?_map, ha]; rfl
  · rw [cloneHs_getElem?, if_pos (List.getElem?_eq_some_iff.mp ha).1]

theorem clonePairs_lookup {w : World} (hn : (w.archs.map (·.handle)).Nodup) (next : Nat) {k : Nat} {a : Arch}
    (ha : w.archs[k]? = some a) : World.mapH (clonePairs w next) a.handle = some (next + k) := by
  refine (lookup_some_iff ?_).mpr (List.mem_of_getElem? (clonePairs_getElem? next ha))
  rw [clonePairs, List.map_fst_zip (by simp [cloneHs])]
  exact hn

theorem clonePairs_some {w : World} {next h h' : Nat} (hl : World.mapH (clonePairs w next) h = some h') :
    ∃ (k : Nat) (a : Arch), w.archs[k]? = some a ∧ a.handle = h ∧ h' = next + k := by
  obtain ⟨l₁, l₂, hsplit, -⟩ := List.lookup_eq_some_iff.mp hl
  obtain ⟨k, hk⟩ := List.getElem?_of_mem (hsplit ▸ List.mem_append_right l₁ List.mem_cons_self :
    (h, h') ∈ clonePairs w next)
  obtain ⟨h1, h2⟩ := List.getElem?_zip_eq_some.mp hk
  rw [List.getElem?_map, Option.map_eq_some_iff] at h1
  obtain ⟨a, ha, hah⟩ := h1
  rw [cloneHs_getElem?, if_pos (List.getElem?_eq_some_iff.mp ha).1] at h2
  exact ⟨k, a, ha, hah, (Option.some.inj h2).symm⟩

theorem mapG_clonePairs {w : World} (hn : (w.archs.map (·.handle)).Nodup) (next : Nat) (k : Nat) (a : Arch)
    (ha : w.archs[k]? = some a) : mapG (clonePairs w next) a.handle = next + k := by
  rw [mapG, clonePairs_lookup hn next ha]
  rfl

/-! ### the cloned world -/

/-- What `clone` returns unless it misses a handle. -/
def cloneWorld (w : World) (e next : Nat) : World :=
  { n := w.n, archs := renumbered (cloneVal e) next w.archs,
    typeIds := w.typeIds.map fun p => (p.1, mapG (clonePairs w next) p.2),
    foreign := (renumbered (cloneVal e) next w.archs).flatMap (fun a => [(a.mask, a.handle), (a.mask, a.handle)]),
    alloc := w.alloc.reloc (mapG (clonePairs w next)), len := w.len, res := w.res.map (cloneVal e),
    next := next + w.archs.length }

theorem clone_eq (w : World) (e next : Nat) :
    w.clone e next =
      match World.remapLookup (clonePairs w next) w.typeIds with
      | .ub x => .ub x
      | .ok tys =>
        match w.alloc.remap (World.mapH (clonePairs w next)) with
        | .ub x => .ub x
        | .ok al => .ok { cloneWorld w e next with typeIds := tys, alloc := al } := by
  unfold cloneWorld
  rw [← zipWith_cloneHs]
  rfl

theorem clone_eq_ok {w c : World} {e next : Nat} (h : w.clone e next = .ok c) : c = cloneWorld w e next := by
  rw [clone_eq] at h
  split at h
  · cases h
  · rename_i tys h1
    split at h
    · cases h
    · rename_i al h2
      cases h
      rw [remapLookup_eq_ok h1, remap_eq_ok h2]
      rfl

theorem clone_ok {w : World} (hi : Inv w) (e next : Nat) : w.clone e next = .ok (cloneWorld w e next) := by
  have hp : ∀ a ∈ w.archs, (World.mapH (clonePairs w next) a.handle).isSome := by
    intro a ha
    obtain ⟨k, hk⟩ := List.getElem?_of_mem ha
    rw [clonePairs_lookup hi.handles_nodup next hk]
    rfl
  rw [clone_eq, hi.remapLookup_ok hp, hi.remap_ok hp]
  rfl

theorem cloneWorld_copy {w : World} (hi : Inv w) (e next : Nat) :
    Copy (cloneVal e) (mapG (clonePairs w next)) w (cloneWorld w e next) :=
  .of_renumbered (mapG_clonePairs hi.handles_nodup next) rfl rfl rfl rfl rfl

theorem cloneWorld_tables {w : World} (hi : Inv w) (e next : Nat) : Tables (cloneWorld w e next) := by
  obtain ⟨hn, hlt⟩ := renumbered_handles (cloneVal e) next w.archs
  refine ⟨fun T hT => ?_, ?_, hn, fun p' hp' => ?_, ?_, fun p hp => ?_⟩
  · obtain ⟨k, a, ha, rfl⟩ := mem_renumbered.mp hT
    exact ⟨(hi.archOk (List.mem_of_getElem? ha)).shape.mapVals (cloneVal_ty e) _, hlt _ hT,
      List.mem_flatMap.mpr ⟨_, hT, List.mem_cons_self⟩⟩
  · show ((renumbered (cloneVal e) next w.archs).map (·.mask)).Nodup
    rw [map_renumbered (f' := (·.mask)) (fun _ _ => rfl)]
    exact hi.masks_nodup
  · obtain ⟨p, hp, rfl⟩ := List.mem_map.mp hp'
    exact (cloneWorld_copy hi e next).lookupOk (hi.typeIds p hp)
  · show ((w.typeIds.map fun p => (p.1, mapG (clonePairs w next) p.2)).map (·.1)).Nodup
    rw [List.map_map]
    exact hi.typeIds_nodup
  · obtain ⟨T, hT, hpT⟩ := List.mem_flatMap.mp hp
    have : p = (T.mask, T.handle) := by simpa using hpT
    subst this
    exact lookupOk_of_find (findArch_of_mem hn hT) rfl

theorem cloneWorld_inv {w : World} (hi : Inv w) (e next : Nat) : Inv (cloneWorld w e next) := by
  refine Inv.of_halves (cloneWorld_tables hi e next) ((cloneWorld_copy hi e next).linked hi (fun T hT => ?_) ?_)
  · obtain ⟨k, a, ha, rfl⟩ := mem_renumbered.mp hT
    exact Or.inr ⟨a, List.mem_of_getElem? ha, by rw [mapG_clonePairs hi.handles_nodup next k a ha]⟩
  · show w.len = ((renumbered (cloneVal e) next w.archs).map (·.ids.length)).sum
    rw [map_renumbered (f' := (·.ids.length)) (fun _ _ => rfl)]
    exact hi.len

theorem clone_spec {w : World} (hi : Inv w) (e next : Nat) :
    ∃ w', w.clone e next = .ok w' ∧ Inv w' ∧ w'.n = w.n ∧ w'.len = w.len ∧
      (∀ id, w'.entity id = (w.entity id).map (fun vs => vs.map (cloneVal e))) ∧
      w'.res = w.res.map (cloneVal e) ∧ World.eqWorld w w' = .ok true :=
  have cp := cloneWorld_copy hi e next
  have hc := cloneWorld_inv hi e next
  ⟨_, clone_ok hi e next, hc, rfl, rfl, cp.entity hi, rfl,
    cp.eqWorld hi hc (renumbered_length _ _ _) fun v _ => eqv_cloneVal e v⟩

theorem clone_values {w w' : World} {e next : Nat} (h : w.clone e next = .ok w') :
    w'.values = w.values.map (cloneVal e) := by
  obtain rfl := clone_eq_ok h
  exact values_of_renumbered rfl rfl

theorem clone_keeps_dead {w w' : World} {e next : Nat} (h : w.clone e next = .ok w')
    {x : Ident} (d : Dead w.alloc x) : Dead w'.alloc x := by
  obtain rfl := clone_eq_ok h
  exact d.reloc _

end Brood
