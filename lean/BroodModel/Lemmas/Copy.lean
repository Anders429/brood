/-
  `World::clone`, `World::clone_from` and `deserialize ∘ serialize` all end in a world `c` that has
  the registry size and `len` of the source `s`, whose resources are the source's sent through a
  map `φ` of values (`cloneVal e` for the first two, `Serde.retag k e` for the round trip), whose
  allocator is the source's with the table handle of every location sent through a map `g`
  (`Alloc.reloc`), and whose table `g h` holds the rows of the source's table `h`, values sent
  through `φ`: `Copy φ g s c`.  From the relation alone follow the map view of the copy
  (`Copy.entity`), the half of the invariant that ties allocator and tables together
  (`Copy.linked`) and, where `φ` sends every value to an equivalent one, equality with the source
  (`Copy.eqWorld`); what is left to each operation is the half of the invariant that is about its
  tables.  `clone` and the round trip number the copied tables `next, next + 1, …` (`renumbered`).
-/
import BroodModel.Lemmas.Eq
import BroodModel.Lemmas.Linked

namespace Brood
open Alloc Serde

theorem eqv_cloneVal (e : Nat) (v : Val) : v.eqv (cloneVal e v) = true := by
  unfold Val.eqv cloneVal Val.base
  simp [epochBase]

variable {φ : Val → Val}

theorem archEqv_mapVals (h : Nat) {a : Arch} (hφ : ∀ v ∈ a.values, v.eqv (φ v) = true) :
    World.archEqv a (a.mapVals φ h) = true := by
  simp only [World.archEqv, Arch.mapVals, beq_self_eq_true, Bool.true_and]
  exact colsEqv_map a.cols fun c hc v hv => hφ v (List.mem_flatten.mpr ⟨c, hc, hv⟩)

/-! ### `Allocator::clone` and the lookup tables under a handle map, in closed form -/

def Slot.reloc (g : Nat → Nat) (s : Slot) : Slot := ⟨s.gen, s.loc.map fun l => ⟨g l.arch, l.row⟩⟩

def Alloc.reloc (a : Alloc) (g : Nat → Nat) : Alloc := ⟨a.slots.map (Slot.reloc g), a.free⟩

/-- The total renaming a list of handle pairs stands for; where a handle has no entry its value is
never asked for. -/
def mapG (pairs : List (Nat × Nat)) (h : Nat) : Nat := (World.mapH pairs h).getD 0

theorem remap_go_eq (f : Nat → Option Nat) (ss : List Slot) :
    Alloc.remap.go f ss =
      if ss.all (fun s => s.loc.all fun l => (f l.arch).isSome) then
        .ok (ss.map (Slot.reloc fun h => (f h).getD 0)) else .ub .mapMiss := by
  induction ss with
  | nil => rfl
  | cons s ss ih =>
    simp only [Alloc.remap.go, ih, List.all_cons, List.map_cons, Slot.reloc]
    cases hl : s.loc with
    | none => cases ss.all _ <;> rfl
    | some l => cases hf : f l.arch <;> cases ss.all _ <;> simp [hf]

theorem remap_eq (a : Alloc) (f : Nat → Option Nat) :
    a.remap f =
      if a.slots.all (fun s => s.loc.all fun l => (f l.arch).isSome) then
        .ok (a.reloc fun h => (f h).getD 0) else .ub .mapMiss := by
  unfold Alloc.remap
  rw [remap_go_eq]
  cases a.slots.all _ <;> rfl

theorem remap_eq_ok {a al : Alloc} {f : Nat → Option Nat} (h : a.remap f = .ok al) :
    al = a.reloc fun h => (f h).getD 0 := by
  rw [remap_eq] at h
  split at h <;> cases h
  rfl

theorem remapLookup_eq (pairs : List (Nat × Nat)) (l : List (Mask × Nat)) :
    World.remapLookup pairs l =
      if l.all (fun p => (World.mapH pairs p.2).isSome) then
        .ok (l.map fun p => (p.1, mapG pairs p.2)) else .ub .mapMiss := by
  induction l with
  | nil => rfl
  | cons p ps ih =>
    obtain ⟨m, h⟩ := p
    simp only [World.remapLookup, ih, List.all_cons, List.map_cons, mapG]
    cases hf : World.mapH pairs h <;> cases ps.all _ <;> rfl

theorem remapLookup_eq_ok {pairs : List (Nat × Nat)} {l l' : List (Mask × Nat)}
    (h : World.remapLookup pairs l = .ok l') : l' = l.map fun p => (p.1, mapG pairs p.2) := by
  rw [remapLookup_eq] at h
  split at h <;> cases h
  rfl

theorem getElem?_reloc (a : Alloc) (g : Nat → Nat) (i : Nat) :
    (a.reloc g).slots[i]? = (a.slots[i]?).map (Slot.reloc g) :=
  List.getElem?_map

theorem get_reloc (a : Alloc) (g : Nat → Nat) (id : Ident) :
    (a.reloc g).get id = (a.get id).map fun l => ⟨g l.arch, l.row⟩ := by
  unfold Alloc.get
  rw [getElem?_reloc]
  cases a.slots[id.index]? with
  | none => rfl
  | some s => by_cases hg : s.gen = id.gen <;> simp [Slot.reloc, hg]

theorem Alloc.AInv.reloc {a : Alloc} (h : AInv a) (g : Nat → Nat) : AInv (a.reloc g) := by
  refine ⟨h.nodup, fun i hi => ?_, fun i s hs hl => ?_⟩
  · obtain ⟨s, hs, hl⟩ := h.inactive i hi
    exact ⟨s.reloc g, by rw [getElem?_reloc, hs]; rfl, by rw [Slot.reloc, hl]; rfl⟩
  · rw [getElem?_reloc, Option.map_eq_some_iff] at hs
    obtain ⟨s0, hs0, rfl⟩ := hs
    exact h.listed i s0 hs0 (by simpa [Slot.reloc] using hl)

theorem Alloc.Dead.reloc {a : Alloc} {x : Ident} (d : Dead a x) (g : Nat → Nat) :
    Dead (a.reloc g) x := by
  obtain ⟨s, hs, hd⟩ := d
  refine ⟨s.reloc g, by rw [getElem?_reloc, hs]; rfl, ?_⟩
  rcases hd with hd | ⟨hd1, hd2⟩
  · exact Or.inl hd
  · exact Or.inr ⟨hd1, by rw [Slot.reloc, hd2]; rfl⟩

theorem Inv.remap_ok {w : World} (h : Inv w) {pairs : List (Nat × Nat)}
    (hp : ∀ a ∈ w.archs, (World.mapH pairs a.handle).isSome) :
    w.alloc.remap (World.mapH pairs) = .ok (w.alloc.reloc (mapG pairs)) := by
  rw [remap_eq, if_pos (List.all_eq_true.mpr fun s hs => ?_)]
  · rfl
  cases hl : s.loc with
  | none => rfl
  | some l =>
    obtain ⟨a, hf⟩ := h.slotsResolve s hs l hl
    obtain ⟨ha, hh⟩ := findArch_some hf
    exact (hh ▸ hp a ha :)

theorem Inv.remapLookup_ok {w : World} (h : Inv w) {pairs : List (Nat × Nat)}
    (hp : ∀ a ∈ w.archs, (World.mapH pairs a.handle).isSome) :
    World.remapLookup pairs w.typeIds = .ok (w.typeIds.map fun p => (p.1, mapG pairs p.2)) := by
  rw [remapLookup_eq, if_pos (List.all_eq_true.mpr fun p hpm => ?_)]
  obtain ⟨a, hf, -⟩ := lookup_mask (h.typeIds p hpm)
  obtain ⟨ha, hh⟩ := findArch_some hf
  exact hh ▸ hp a ha

/-! ### tables numbered consecutively -/

theorem consecutive_handles {l : List Arch} {h0 : Nat}
    (h : ∀ (j : Nat) (a : Arch), l[j]? = some a → a.handle = h0 + j) :
    (l.map (·.handle)).Nodup ∧ ∀ a ∈ l, a.handle < h0 + l.length := by
  constructor
  · refine (List.pairwise_map.mpr (List.pairwise_iff_getElem.mpr fun i j hi hj hij => ?_)).imp Nat.ne_of_lt
    rw [h i _ (List.getElem?_eq_getElem hi), h j _ (List.getElem?_eq_getElem hj)]
    omega
  · intro a ha
    obtain ⟨j, hj⟩ := List.getElem?_of_mem ha
    rw [h j a hj]
    have := (List.getElem?_eq_some_iff.mp hj).1
    omega

def renumbered (φ : Val → Val) (next : Nat) (l : List Arch) : List Arch :=
  l.mapIdx fun j a => a.mapVals φ (next + j)

theorem renumbered_getElem? (φ : Val → Val) (next : Nat) (l : List Arch) (k : Nat) :
    (renumbered φ next l)[k]? = (l[k]?).map (Arch.mapVals φ (next + k)) :=
  List.getElem?_mapIdx

theorem renumbered_length (φ : Val → Val) (next : Nat) (l : List Arch) : (renumbered φ next l).length = l.length :=
  List.length_mapIdx

theorem renumbered_cons (φ : Val → Val) (next : Nat) (a : Arch) (l : List Arch) :
    renumbered φ next (a :: l) = a.mapVals φ next :: renumbered φ (next + 1) l := by
  simp [renumbered, List.mapIdx_cons, Nat.add_assoc, Nat.add_comm 1]

theorem mem_renumbered {next : Nat} {l : List Arch} {b : Arch} :
    b ∈ renumbered φ next l ↔ ∃ (k : Nat) (a : Arch), l[k]? = some a ∧ a.mapVals φ (next + k) = b := by
  simp only [List.mem_iff_getElem?, renumbered_getElem?, Option.map_eq_some_iff]

theorem map_renumbered {β} {f f' : Arch → β} (hf : ∀ h a, f (a.mapVals φ h) = f' a) (next : Nat) (l : List Arch) :
    (renumbered φ next l).map f = l.map f' :=
  List.ext_getElem? fun k => by
    rw [List.getElem?_map, List.getElem?_map, renumbered_getElem?]
    cases l[k]? with
    | none => rfl
    | some a => exact congrArg some (hf _ a)

theorem renumbered_handles (φ : Val → Val) (next : Nat) (l : List Arch) :
    ((renumbered φ next l).map (·.handle)).Nodup ∧ ∀ b ∈ renumbered φ next l, b.handle < next + l.length := by
  have := consecutive_handles (l := renumbered φ next l) (h0 := next) fun j b h => by
    rw [renumbered_getElem?, Option.map_eq_some_iff] at h
    obtain ⟨a, -, rfl⟩ := h
    rfl
  rwa [renumbered_length] at this

theorem values_of_renumbered {s c : World} {next : Nat} (ha : c.archs = renumbered φ next s.archs)
    (hr : c.res = s.res.map φ) : c.values = s.values.map φ := by
  unfold World.values
  rw [ha, hr, List.map_append, List.flatMap_def, List.flatMap_def, List.map_flatten, List.map_map]
  exact congrArg (·.flatten ++ _) (map_renumbered (fun h a => a.values_mapVals φ h) next s.archs)

/-! ### copies -/

/-- `c` may have tables besides the copies: `clone_from` keeps those of the destination it did not
write into, cleared. -/
structure Copy (φ : Val → Val) (g : Nat → Nat) (s c : World) : Prop where
  n : c.n = s.n
  len : c.len = s.len
  res : c.res = s.res.map φ
  alloc : c.alloc = s.alloc.reloc g
  table : ∀ a ∈ s.archs, c.findArch (g a.handle) = some (a.mapVals φ (g a.handle))

variable {g : Nat → Nat} {s c : World}

theorem Copy.find (cp : Copy φ g s c) {h : Nat} {a : Arch} (hf : s.findArch h = some a) :
    c.findArch (g h) = some (a.mapVals φ (g h)) :=
  (findArch_some hf).2 ▸ cp.table a (findArch_some hf).1

theorem Copy.lookupOk (cp : Copy φ g s c) {p : Mask × Nat} (h : lookupOk s p = true) :
    lookupOk c (p.1, g p.2) = true := by
  obtain ⟨a, hf, hm⟩ := lookup_mask h
  exact lookupOk_of_find (cp.find hf) hm

theorem Copy.entity (cp : Copy φ g s c) (hs : Inv s) (id : Ident) :
    c.entity id = (s.entity id).map fun vs => vs.map φ := by
  unfold World.entity
  rw [cp.alloc, get_reloc]
  cases hg : s.alloc.get id with
  | none => rfl
  | some l =>
    obtain ⟨a, hf, -⟩ := hs.live_row hg
    simp only [Option.map_some, hf, cp.find hf, Arch.row_mapVals]

theorem Copy.linked (cp : Copy φ g s c) (hs : Inv s)
    (rows : ∀ T ∈ c.archs, T.ids = [] ∨ ∃ a ∈ s.archs, T = a.mapVals φ (g a.handle))
    (len : s.len = (c.archs.map (·.ids.length)).sum) : Linked c := by
  refine ⟨cp.alloc ▸ hs.ainv.reloc g, fun id l' => ?_, cp.len.trans len⟩
  rw [cp.alloc, get_reloc, Option.map_eq_some_iff, idAt_eq_some]
  constructor
  · rintro ⟨l, hl, rfl⟩
    obtain ⟨a, hf, hr⟩ := hs.live_row hl
    exact ⟨_, cp.find hf, hr⟩
  · rintro ⟨T, hf, hr⟩
    obtain ⟨hT, hh⟩ := findArch_some hf
    rcases rows T hT with h0 | ⟨a, ha, rfl⟩
    · rw [h0] at hr
      cases hr
    · refine ⟨⟨a.handle, l'.row⟩, hs.row_live ha hr, ?_⟩
      cases l'
      cases hh
      rfl

theorem Copy.eqWorld (cp : Copy φ g s c) (hs : Inv s) (hc : Inv c) (hn : c.archs.length = s.archs.length)
    (hφ : ∀ v ∈ s.values, v.eqv (φ v) = true) : World.eqWorld s c = .ok true := by
  apply (eqWorld_true_iff hs hc).mpr
  refine ⟨cp.len.symm, hn.symm, fun x hx => ?_, ?_, by rw [cp.alloc]; rfl,
    cp.res ▸ rowEqv_map s.res fun v hv => hφ v (List.mem_append_right _ hv)⟩
  · exact ⟨_, (findArch_some (cp.table x hx)).1, rfl,
      archEqv_mapVals _ fun v hv => hφ v (List.mem_append_left _ (List.mem_flatMap.mpr ⟨x, hx, hv⟩))⟩
  · rw [cp.alloc]
    refine slotsEqv_map _ _ fun sl hsl => ?_
    unfold World.slotEqv Slot.reloc
    cases hl : sl.loc with
    | none => simp
    | some l =>
      obtain ⟨a, hf⟩ := hs.slotsResolve sl hsl l hl
      simp [World.maskOf, hf, cp.find hf, Arch.mapVals]

theorem Copy.of_renumbered {next : Nat}
    (hg : ∀ (k : Nat) (a : Arch), s.archs[k]? = some a → g a.handle = next + k)
    (hn : c.n = s.n) (hl : c.len = s.len) (hr : c.res = s.res.map φ) (hal : c.alloc = s.alloc.reloc g)
    (ha : c.archs = renumbered φ next s.archs) : Copy φ g s c := by
  refine ⟨hn, hl, hr, hal, fun a ham => ?_⟩
  obtain ⟨k, hk⟩ := List.getElem?_of_mem ham
  rw [hg k a hk]
  exact findArch_of_mem (ha ▸ (renumbered_handles φ next s.archs).1) (ha ▸ mem_renumbered.mpr ⟨k, a, hk, rfl⟩)

end Brood
