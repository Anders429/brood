/-
  Printer / parser inversion: what `Serde.serialize` prints, `Serde.deserialize` reads back.  Read
  back from the serialization of a world satisfying the invariant is that world with its tables
  renumbered, every value re-tagged and the allocator's locations renamed accordingly
  (`retagWorld`, `roundtrip_closed`): a `Copy`, like a clone.
-/
import BroodModel.Lemmas.DeInv
import BroodModel.Lemmas.Clone
import BroodModel.Lemmas.Bits

namespace Brood
namespace Serde
open Alloc

/-! ### identifiers, values, masks -/

theorem deU8_cons (n : Nat) (ts : List Tok) : deU8 (Tok.u8 n :: ts) = .ok (n, ts) := rfl

theorem reads_u8 (n : Nat) : Reads deU8 [.u8 n] n := deU8_cons n

theorem reads_ident (i : Ident) : Reads deIdent (serIdent i) i := fun _ => rfl

/-- What a value looks like after a round trip with epoch `e`. -/
def retag (k : Kinds) (e : Nat) (v : Val) : Val :=
  if k.kindOf v.ty == 'z' then ⟨v.ty, 0⟩ else ⟨v.ty, v.id % epochBase + e * epochBase⟩

theorem retag_ty (k : Kinds) (e : Nat) (v : Val) : (retag k e v).ty = v.ty := by
  unfold retag
  split <;> rfl

theorem retag_base_zst {k : Kinds} {v : Val} (e : Nat) (h : k.kindOf v.ty = 'z') :
    (retag k e v).base = 0 := by
  rw [retag, h, beq_self_eq_true, if_pos rfl]
  rfl

theorem retag_base {k : Kinds} {v : Val} (e : Nat) (h : k.kindOf v.ty ≠ 'z') :
    (retag k e v).base = v.base := by
  rw [retag, if_neg (by simpa using h)]
  exact (Nat.add_mul_mod_self_right ..).trans (Nat.mod_mod ..)

theorem eqv_retag {k : Kinds} {e : Nat} {v : Val} (hz : k.kindOf v.ty = 'z' → v.base = 0) :
    v.eqv (retag k e v) = true := by
  rw [Val.eqv, retag_ty, beq_self_eq_true, Bool.true_and, beq_iff_eq]
  by_cases hk : k.kindOf v.ty = 'z'
  · rw [retag_base_zst e hk, hz hk]
  · rw [retag_base e hk]

theorem reads_val (k : Kinds) (e : Nat) {v : Val} {ty : Nat} (h : v.ty = ty) :
    Reads (deVal k e ty) (serVal v) (retag k e v) := fun _ => h ▸ rfl

theorem reads_mask {n : Nat} (m : Mask) (hn : m.length = n) : Reads (deMask n) (serMask m) m := by
  subst hn
  have hb := Reads.tupleOf (ser := fun b => [Tok.u8 b]) (f := id) (Mask.pack m)
    fun b _ => ⟨reads_u8 b, .of_cons nofun⟩
  rw [pack_length, List.map_id] at hb
  rw [deMask_do]
  refine .of_eq (.bind hb (t := []) ?_) (by simp [serMask, pack_length, List.map_eq_flatMap])
  -- the padding test fails only if `pack` left a padding bit set
  split
  · rename_i hbad
    simp only [Bool.and_eq_true, decide_eq_true_eq] at hbad
    exact absurd (pack_padding m hbad.1.2) hbad.2
  · exact .ret (unpack_pack m)

/-! ### one table, row-wise and column-wise -/

def serCell (r : Nat) (c : List Val) : List Tok :=
  match c[r]? with
  | some v => serVal v
  | none => []

def serCol (c : List Val) : List Tok := [Tok.tupB c.length] ++ c.flatMap serVal ++ [Tok.tupE]

/-- The body of a serialized table: row-wise when human readable, column-wise otherwise. -/
def serBody (hr : Bool) (a : Arch) : List Tok :=
  if hr then [.tupB a.ids.length] ++ (List.range a.ids.length).flatMap (serRow a) ++ [.tupE]
  else [.tupB (a.cols.length + 1)] ++ ([.tupB a.ids.length] ++ a.ids.flatMap serIdent ++ [.tupE]) ++
    a.cols.flatMap serCol ++ [.tupE]

theorem serArch_eq (hr : Bool) (a : Arch) :
    serArch hr a =
      [.newtype "Archetype", .tupB 3] ++ serMask a.mask ++ [.u64 a.ids.length] ++ serBody hr a ++ [.tupE] :=
  rfl

theorem reads_cell (k : Kinds) (e : Nat) {r ty : Nat} {c : List Val} {v : Val} (hc : c[r]? = some v)
    (hv : v.ty = ty) : Reads (elem .tupE (deVal k e ty)) (serCell r c) (retag k e v) := by
  rw [serCell, hc]
  exact .elem (reads_val k e hv) (.of_cons nofun)

theorem reads_row {n : Nat} {a : Arch} (ok : ArchShape n a) (k : Kinds) (e : Nat) {r : Nat} {id : Ident}
    (hid : a.ids[r]? = some id) :
    Reads (deRow k e a.mask.comps) (serRow a r) (id, (a.row r).map (retag k e)) := by
  have hr : r < a.ids.length := (List.getElem?_eq_some_iff.mp hid).1
  have hlen := ok.comps_len
  have hcell : ∀ c ∈ a.cols, c[r]? = some (c.getD r default) := fun c hc =>
    getElem?_eq_some_getD (ok.cols_all_len c hc ▸ hr) default
  -- `Function.comp_def`: matching `retag k e v` against `(retag k e ∘ _) c` unfolds `retag` first
  rw [deRow_do, deRow_go_eq, ok.row_eq_map hr, List.map_map, Function.comp_def]
  refine .of_eq (.bind (reads_tupB _) <| .bind (.elem (reads_ident id) (.of_cons nofun)) <|
    .bind (.traverse (ser := serCell r) _ a.cols hlen fun j ty c hty hc =>
      have hc' := hcell c (List.mem_of_getElem? hc)
      reads_cell k e hc' ((ok.cols_ok j c ty hc hty).2 _ (List.mem_of_getElem? hc'))) <|
    .bind (reads_end _) (.pure _)) ?_
  rw [serRow, hid, hlen, List.append_nil, List.append_assoc, List.append_assoc]
  rfl

theorem reads_col (k : Kinds) (e : Nat) {c : List Val} {ty : Nat} (h : ∀ v ∈ c, v.ty = ty) :
    Reads (tupleOf c.length (deVal k e ty)) (serCol c) (c.map (retag k e)) :=
  .of_eq (.tupleOf c fun v hv => ⟨reads_val k e (h v hv), .of_cons nofun⟩) (by simp [serCol])

theorem reads_bodyCols {n : Nat} {a : Arch} (ok : ArchShape n a) (k : Kinds) (e h : Nat) :
    Reads (deArchBodyCols k e h a.mask a.ids.length) (serBody false a) (a.mapVals (retag k e) h) := by
  have hlen := ok.comps_len
  rw [deArchBodyCols_do, deCols_eq]
  refine .of_eq (.bind (reads_tupB _) <|
    .bind (.elem (.tupleOf a.ids fun i _ => ⟨reads_ident i, .of_cons nofun⟩) (.of_cons nofun)) <|
    .bind (.traverse (ser := serCol) (f := List.map (retag k e)) _ a.cols hlen fun j ty c hty hc => ?_) <|
    .bind (reads_end _) (.ret (by simp [Arch.mapVals]))) ?_
  · obtain ⟨cl, ct⟩ := ok.cols_ok j c ty hc hty
    exact .elem (cl ▸ reads_col k e ct) (.of_cons nofun)
  · simp [serBody, hlen]

theorem transpose_rows {n : Nat} {a : Arch} (s : ArchShape n a) :
    transpose a.cols.length ((List.range a.ids.length).map a.row) = a.cols := by
  -- row `r` takes cell `r` of every column, so cell `j` of every row is column `j` again
  rw [List.map_congr_left fun r hr => s.row_eq_map (List.mem_range.mp hr)]
  unfold transpose
  refine List.ext_getElem (by rw [List.length_map, List.length_range]) fun j h1 h2 => ?_
  have hj : j < a.cols.length := h2
  rw [List.getElem_map, List.getElem_range, List.filterMap_map,
    filterMap_eq_map (g := fun r => a.cols[j].getD r default) fun r _ => by
      rw [Function.comp, List.getElem?_map, List.getElem?_eq_getElem hj]
      rfl]
  rw [← s.cols_all_len _ (List.getElem_mem hj)]
  exact map_range_getD _ _

theorem reads_bodyRows {n : Nat} {a : Arch} (ok : ArchShape n a) (k : Kinds) (e h : Nat) :
    Reads (deArchBodyRows k e h a.mask a.ids.length) (serBody true a) (a.mapVals (retag k e) h) := by
  have ht := Reads.tupleOf (ser := serRow a)
    (f := fun r => (a.ids.getD r default, (a.mapVals (retag k e) h).row r))
    (List.range a.ids.length) fun r hr =>
      ⟨a.row_mapVals (retag k e) h r ▸
          reads_row ok k e (getElem?_eq_some_getD (List.mem_range.mp hr) default),
        .of_cons nofun⟩
  rw [List.length_range] at ht
  rw [deArchBodyRows_do]
  refine .of_eq (.bind ht (.ret ?_)) (by simp [serBody])
  simp only [Arch.mapVals, List.map_map, Arch.mk.injEq, true_and]
  constructor
  · exact map_range_getD a.ids default
  · have := transpose_rows (ok.mapVals (retag_ty k e) h)
    rw [show (a.mapVals (retag k e) h).cols.length = a.cols.length from List.length_map _] at this
    rw [ok.comps_len]
    exact this

theorem reads_arch {n : Nat} {a : Arch} (ok : ArchShape n a) (k : Kinds) (hr : Bool) (e h : Nat) :
    Reads (deArch k hr n e h) (serArch hr a) (a.mapVals (retag k e) h) := by
  have body : Reads (if hr then deArchBodyRows k e h a.mask a.ids.length
      else deArchBodyCols k e h a.mask a.ids.length) (serBody hr a) (a.mapVals (retag k e) h) := by
    cases hr
    · exact reads_bodyCols ok k e h
    · exact reads_bodyRows ok k e h
  have toks : serArch hr a = [.newtype "Archetype"] ++ ([.tupB 3] ++ (serMask a.mask ++
      ([.u64 a.ids.length] ++ (serBody hr a ++ ([.tupE] ++ []))))) := by
    simp only [serArch_eq, List.append_assoc, List.cons_append, List.nil_append, List.append_nil]
  rw [deArch_do, toks]
  refine .bind (reads_next _) ?_
  show Reads (if _ then _ else _) _ _
  rw [if_neg (by simp)]
  exact .bind (reads_tupB 3) <| .bind (.elem (reads_mask a.mask ok.mask_len) (.of_cons nofun)) <|
    .bind (.elem (reads_u64 a.ids.length) (.of_cons nofun)) <|
    .bind (.elem body (by cases hr <;> exact .of_cons nofun)) <| .bind (reads_end _) (.pure _)

/-! ### the three parts of a world: tables, allocator, resources -/

/-- The fuel the sequence visitors take (one more than the number of tokens left) suffices. -/
theorem length_lt_flatMap {α β} (f : α → List β) (l : List α) (h : ∀ x ∈ l, f x ≠ []) (rest : List β) :
    l.length < (l.flatMap f ++ rest).length + 1 := by
  induction l with
  | nil => simp
  | cons x xs ih =>
    have := List.length_pos_iff.mpr (h x List.mem_cons_self)
    have := ih fun y hy => h y (List.mem_cons_of_mem _ hy)
    simp only [List.flatMap_cons, List.length_append, List.length_cons] at this ⊢
    omega

theorem reads_archs {n : Nat} (k : Kinds) (hr : Bool) (e : Nat) (l : List Arch) :
    ∀ (fuel h : Nat) (acc : List Arch), (∀ a ∈ l, ArchShape n a) → l.length < fuel →
      (acc.map (·.mask) ++ l.map (·.mask)).Nodup →
      Reads (deArchs k hr n e fuel h acc) (l.flatMap (serArch hr) ++ [.seqE])
        (acc ++ renumbered (retag k e) h l) := by
  induction l with
  | nil =>
    intro fuel h acc _ hf _
    obtain ⟨fuel, rfl⟩ := Nat.exists_eq_add_one.mpr hf
    rw [deArchs_succ]
    exact .hasElem_end (.ret (by simp [renumbered]))
  | cons a as ih =>
    intro fuel h acc hok hf hnd
    obtain ⟨fuel, rfl⟩ := Nat.exists_eq_add_one.mpr (Nat.zero_lt_of_lt hf)
    have hdup : ¬ (acc.any fun b => b.mask == (a.mapVals (retag k e) h).mask) = true := fun hany => by
      obtain ⟨b, hb, hbm⟩ := List.any_eq_true.mp hany
      exact (List.nodup_append.mp hnd).2.2 b.mask (List.mem_map_of_mem hb) a.mask
        (List.mem_map_of_mem List.mem_cons_self) (beq_iff_eq.mp hbm)
    have ih := ih fuel (h + 1) (acc ++ [a.mapVals (retag k e) h])
      (fun b hb => hok b (List.mem_cons_of_mem _ hb)) (Nat.lt_of_succ_lt_succ hf)
      (by simpa [Arch.mapVals] using hnd)
    rw [deArchs_succ]
    refine .of_eq (.hasElem_more (.bind (reads_arch (hok a List.mem_cons_self) k hr e h)
      (t := as.flatMap (serArch hr) ++ [.seqE]) ?_) (.of_cons nofun)) (by simp)
    rw [if_neg hdup]
    simpa [renumbered_cons] using ih

theorem reads_archsSeq {w : World} (hi : Inv w) (k : Kinds) (hr : Bool) (e next : Nat) (o : Option Nat) :
    Reads (deArchsSeq k hr w.n e next) (.seqB o :: w.archs.flatMap (serArch hr) ++ [.seqE])
      (renumbered (retag k e) next w.archs) := by
  intro rest
  simpa [deArchsSeq] using reads_archs k hr e w.archs _ next [] (fun a ha => (hi.archOk ha).shape)
    (length_lt_flatMap (serArch hr) w.archs (fun _ _ => nofun) (.seqE :: rest))
    hi.masks_nodup rest

theorem reads_free (ids : List Ident) : ∀ (fuel : Nat) (acc : List Ident), ids.length < fuel →
    Reads (deFree fuel acc) (ids.flatMap serIdent ++ [.seqE]) (acc ++ ids) := by
  induction ids with
  | nil =>
    intro fuel acc h
    obtain ⟨fuel, rfl⟩ := Nat.exists_eq_add_one.mpr h
    rw [deFree_succ]
    exact .hasElem_end (.ret (List.append_nil acc).symm)
  | cons i is ih =>
    intro fuel acc h
    obtain ⟨fuel, rfl⟩ := Nat.exists_eq_add_one.mpr (Nat.zero_lt_of_lt h)
    have ih := ih fuel (acc ++ [i]) (Nat.lt_of_succ_lt_succ h)
    rw [deFree_succ]
    refine .of_eq (.hasElem_more (.bind (reads_ident i) (t := is.flatMap serIdent ++ [.seqE]) ?_)
      (.of_cons nofun)) (by simp)
    simpa using ih

theorem reads_freeSeq (ids : List Ident) (o : Option Nat) :
    Reads deFreeSeq (.seqB o :: ids.flatMap serIdent ++ [.seqE]) ids := by
  intro rest
  simpa [deFreeSeq] using
    reads_free ids _ [] (length_lt_flatMap serIdent ids (fun _ _ => nofun) (.seqE :: rest)) rest

/-- The freed identifiers as serialized: index with the slot's current generation. -/
def freeIds (al : Alloc) : List Ident := al.free.map (fun i => ⟨i, (al.slots.getD i default).gen⟩)

theorem freeIds_index (al : Alloc) : (freeIds al).map (·.index) = al.free := by
  rw [freeIds, List.map_map]
  exact List.map_id' _

theorem deAllocFields_length (fuel : Nat) (b : Option (List Ident)) (v : Nat) (ts : List Tok) :
    deAllocFields (fuel + 1) none b (.field "length" :: .u64 v :: ts) =
      deAllocFields fuel (some v) b ts := rfl

theorem deAllocFields_free (fuel : Nat) (a : Option Nat) {ts ts' : List Tok} {fr : List Ident}
    (h : deFreeSeq ts = .ok (fr, ts')) :
    deAllocFields (fuel + 1) a none (.field "free" :: ts) = deAllocFields fuel a (some fr) ts' := by
  simp [deAllocFields, h]

theorem deAllocFields_end (fuel x : Nat) (y : List Ident) (ts : List Tok) :
    deAllocFields (fuel + 1) (some x) (some y) (.structE :: ts) = .ok ((x, y), ts) := rfl

theorem reads_allocParts (al : Alloc) :
    Reads deAllocParts (serAlloc al) (al.slots.length, freeIds al) := by
  intro rest
  have toks : serAlloc al ++ rest = .structB "Allocator" 2 :: .field "length" :: .u64 al.slots.length ::
      .field "free" :: ((.seqB (some al.free.length) :: (freeIds al).flatMap serIdent ++ [.seqE]) ++
        .structE :: rest) := by
    simp [serAlloc, freeIds, List.flatMap_map]
  rw [toks]
  simp only [deAllocParts, ne_eq, not_true_eq_false, if_false, List.length_cons]
  rw [deAllocFields_length, deAllocFields_free _ _ (reads_freeSeq _ _ _), deAllocFields_end]

/-- Resources are stored by position with the type tag `resTy p`. -/
def ResOk (w : World) : Prop := w.res.map (·.ty) = (List.range w.res.length).map resTy

theorem reads_res (k : Kinds) (e : Nat) {w : World} (hr : ResOk w) :
    Reads (deRes k w.res.length e) (.tupB w.res.length :: w.res.flatMap serVal ++ [.tupE])
      (w.res.map (retag k e)) := by
  rw [deRes_do, deResGo_eq]
  refine .of_eq (.bind (reads_tupB _) <|
    .bind (.traverse (ser := serVal) (f := retag k e) _ w.res (by simp) fun j p v hp hv => ?_) <|
    .bind (reads_end _) (.pure _)) (by simp)
  have := congrArg (·[j]?) hr
  simp only [List.getElem?_map, hv, hp, Option.map_some] at this
  exact .elem (reads_val k e (Option.some.inj this)) (.of_cons nofun)

/-! ### `from_serialized_parts` on the parts of a world satisfying the invariant -/

theorem rowsOf_fst (l : List Arch) : (rowsOf l).map (·.1) = l.flatMap (·.ids) := by
  simp only [rowsOf, List.map_flatMap, List.map_map]
  congr 1
  funext a
  exact List.map_fst_zip (by simp)

theorem PartsOk.eq_reloc {w : World} (hi : Inv w) {archs : List Arch} {al : Alloc} {g : Nat → Nat}
    (hp : PartsOk (freeIds w.alloc) archs al) (hl : al.slots.length = w.alloc.slots.length)
    (hrow : ∀ a ∈ w.archs, ∃ b ∈ archs, b.handle = g a.handle ∧ b.ids = a.ids) : al = w.alloc.reloc g := by
  have hslots : al.slots = w.alloc.slots.map (Slot.reloc g) := by
    apply List.ext_getElem?
    intro i
    rw [List.getElem?_map]
    cases hs : w.alloc.slots[i]? with
    | none => exact List.getElem?_eq_none (hl ▸ List.getElem?_eq_none_iff.mp hs)
    | some s =>
      rw [Option.map_some, Slot.reloc]
      cases hloc : s.loc with
      | none =>
        have hf : (⟨i, s.gen⟩ : Ident) ∈ freeIds w.alloc :=
          List.mem_map.mpr ⟨i, hi.ainv.listed i s hs hloc, by simp [List.getD, hs]⟩
        exact hp.free_slot _ hf
      | some l =>
        obtain ⟨a, hf, hr⟩ := hi.live_row (id := ⟨i, s.gen⟩) (get_eq_some.mpr ⟨s, hs, rfl, hloc⟩)
        obtain ⟨ha, hh⟩ := findArch_some hf
        obtain ⟨b, hb, hbh, hbi⟩ := hrow a ha
        exact hp.row_slot ⟨i, s.gen⟩ ⟨g l.arch, l.row⟩ (mem_rowsOf.mpr ⟨b, hb, by rw [hbh, hh], hbi ▸ hr⟩)
  rw [Alloc.reloc, Alloc.mk.injEq]
  exact ⟨hslots, hp.free_eq.trans (freeIds_index _)⟩

theorem fromParts_ok {w : World} (hi : Inv w) (φ : Val → Val) {g : Nat → Nat} {next : Nat}
    (hg : ∀ (k : Nat) (a : Arch), w.archs[k]? = some a → g a.handle = next + k) :
    fromParts w.alloc.slots.length (freeIds w.alloc) (renumbered φ next w.archs) = .ok (w.alloc.reloc g) := by
  have hnamed : named (freeIds w.alloc) (renumbered φ next w.archs) =
      w.alloc.free ++ w.stored.map (·.index) := by
    have : (rowsOf (renumbered φ next w.archs)).map (·.1.index) = w.stored.map (·.index) := by
      show _ = (w.archs.flatMap (·.ids)).map _
      rw [List.flatMap_def, ← map_renumbered (φ := φ) (f := (·.ids)) (fun _ _ => rfl) next, ← List.flatMap_def,
        ← rowsOf_fst, List.map_map]
      rfl
    rw [named, this, freeIds_index]
  obtain ⟨al, hal⟩ := fromParts_accepts (hnamed ▸ (free_stored_partition hi).1)
    (hnamed ▸ (free_stored_partition hi).2)
  rw [hal, PartsOk.eq_reloc hi (fromParts_spec hal) (fromParts_length hal) fun a ha => ?_]
  obtain ⟨k, hk⟩ := List.getElem?_of_mem ha
  exact ⟨_, mem_renumbered.mpr ⟨k, a, hk, rfl⟩, (hg k a hk).symm, rfl⟩

/-! ### the round trip -/

/-- What `deserialize ∘ serialize` returns.  The tables come back in their order with handles
`next`, `next + 1`, …, which is how `clone` numbers its tables too: hence the same handle map. -/
def retagWorld (k : Kinds) (e next : Nat) (w : World) : World :=
  assemble w.n next (renumbered (retag k e) next w.archs) (w.alloc.reloc (mapG (clonePairs w next)))
    (w.res.map (retag k e))

theorem roundtrip_closed {w : World} (hi : Inv w) (hres : ResOk w) (k : Kinds) (hr : Bool) (e next : Nat) :
    deserialize k hr w.n w.res.length e next (serialize hr w) = .ok (retagWorld k e next w) :=
  Reads.deserialize <| .of_eq (.bind (reads_tupB 3) <|
    .bind (.elem (reads_archsSeq hi k hr e next (some w.archs.length)) (.of_cons nofun)) <|
    .bind (.elem (reads_allocParts w.alloc) (.of_cons nofun)) <|
    .bind (.lift (fromParts_ok hi (retag k e) (mapG_clonePairs hi.handles_nodup next))) <|
    .bind (.elem (reads_res k e hres) (.of_cons nofun)) <| .bind (reads_end _) (.pure _))
    (by simp [serialize])

theorem retagWorld_copy {w : World} (hi : Inv w) (k : Kinds) (e next : Nat) :
    Copy (retag k e) (mapG (clonePairs w next)) w (retagWorld k e next w) := by
  refine .of_renumbered (mapG_clonePairs hi.handles_nodup next) rfl ?_ rfl rfl rfl
  show ((renumbered (retag k e) next w.archs).map (·.ids.length)).sum = w.len
  rw [map_renumbered (f' := (·.ids.length)) (fun _ _ => rfl), hi.len]

/-- Zero-sized components carry no identity (the harness canonicalises them to identity 0). -/
def ZOk (k : Kinds) (w : World) : Prop := ∀ v ∈ w.values, k.kindOf v.ty = 'z' → v.base = 0

end Serde
end Brood
