/-
  Step-level interleavings (C07 / C08): the tasks of a phase are not atomic.  Each task is a
  *program* — a list of steps — and a run of a phase is any interleaving of the programs of its
  tasks (every task's own steps in program order, steps of different tasks in any order).  If
  steps of tasks that may run together commute (which the footprint semantics gives: a step of a
  task touches only cells the task claims), every interleaving ends in the same state as running
  the tasks one after the other.
-/
import BroodModel.Lemmas.SchedSem

namespace Brood
open Static Generated

section generic
variable {α σ ι : Type} [DecidableEq ι] (ap : α → σ → σ) (own : α → ι)

theorem step_comm_list {β : Type} (fa : σ → σ) (g : β → σ → σ) (m : List β)
    (h : ∀ b ∈ m, ∀ s, fa (g b s) = g b (fa s)) (s : σ) :
    fa (runSeq g m s) = runSeq g m (fa s) := by
  induction m generalizing s with
  | nil => rfl
  | cons b m ihm =>
    rw [runSeq_cons, runSeq_cons, ihm (fun b' hb' => h b' (List.mem_cons_of_mem b hb')), h b List.mem_cons_self]

theorem runSeq_comm_lists {β : Type} (f : α → σ → σ) (g : β → σ → σ) (l : List α) (m : List β)
    (h : ∀ a ∈ l, ∀ b ∈ m, ∀ s, f a (g b s) = g b (f a s)) (s : σ) :
    runSeq f l (runSeq g m s) = runSeq g m (runSeq f l s) :=
  step_comm_list (runSeq f l) g m (fun b hb s' =>
    (step_comm_list (g b) f l (fun a ha s'' => (h a ha b hb s'').symm) s').symm) s

/-- **Interleavings.**  Two step lists that agree, owner by owner, on the sequence of steps of that
owner end in the same state, provided steps of different owners commute. -/
theorem runSeq_interleave :
    ∀ (l' l : List α),
      (∀ o, l'.filter (fun a => own a = o) = l.filter (fun a => own a = o)) →
      (∀ a ∈ l, ∀ b ∈ l, own a ≠ own b → ∀ s, ap a (ap b s) = ap b (ap a s)) →
      ∀ s, runSeq ap l' s = runSeq ap l s := by
  intro l'
  induction l' with
  | nil =>
    intro l hf _ s
    cases l with
    | nil => rfl
    | cons a l => simpa using hf (own a)
  | cons x t ih =>
    intro l hf hc s
    -- `x` is the first step of its owner in `l` too; there it moves to the front over steps of others
    have hx := hf (own x)
    rw [List.filter_cons_of_pos (by simp)] at hx
    obtain ⟨pre, post, rfl, hpre, -, hpost⟩ := List.filter_eq_cons_iff.mp hx.symm
    have hsub : pre ++ post ⊆ pre ++ x :: post := ((List.sublist_cons_self x post).append_left pre).subset
    rw [runSeq_append, runSeq_cons, runSeq_cons,
      step_comm_list (ap x) ap pre (fun b hb => hc x (by simp) b (List.mem_append_left _ hb)
        fun h => hpre b hb (decide_eq_true h.symm)), ← runSeq_append]
    refine ih (pre ++ post) (fun o => ?_) (fun a ha b hb => hc a (hsub ha) b (hsub hb)) (ap x s)
    -- what is left agrees owner by owner
    have ho := hf o
    rw [List.filter_append] at ho ⊢
    by_cases hxo : own x = o
    · subst hxo
      rw [List.filter_eq_nil_iff.mpr hpre, hpost]
      rfl
    · rwa [List.filter_cons_of_neg (by simpa using hxo), List.filter_cons_of_neg (by simpa using hxo)] at ho

end generic

/-! ### phases whose tasks are programs -/

section programs
variable {Γ σ : Type}

/-- A step `(i, γ)` of a trace of phase `p`: step `γ` executed on behalf of the `i`-th task. -/
def apI (apG : Task → Γ → σ → σ) (p : List Task) (x : Nat × Γ) (s : σ) : σ :=
  match p[x.1]? with
  | some t => apG t x.2 s
  | none => s

/-- A task run to completion: its steps in program order. -/
def apProg (apG : Task → Γ → σ → σ) (prog : Task → List Γ) (t : Task) (s : σ) : σ :=
  runSeq (apG t) (prog t) s

/-- The trace that runs the tasks `ts` one after the other (`base`: position of the first). -/
def seqTrace (prog : Task → List Γ) : List Task → Nat → List (Nat × Γ)
  | [], _ => []
  | t :: ts, base => (prog t).map (fun γ => (base, γ)) ++ seqTrace prog ts (base + 1)

/-- `tr` is an interleaving of the programs of the tasks of phase `p`: for every position `i`, the
steps of `tr` owned by `i` are, in order, the program of the `i`-th task (none when there is no
such task). -/
def IsInterleaving (prog : Task → List Γ) (p : List Task) (tr : List (Nat × Γ)) : Prop :=
  ∀ i, (tr.filter (fun x => x.1 = i)).map (·.2) = ((p[i]?).map prog).getD []

theorem runSeq_map_base (apG : Task → Γ → σ → σ) (p : List Task) (i : Nat) (t : Task) (hi : p[i]? = some t)
    (l : List Γ) (s : σ) : runSeq (apI apG p) (l.map (fun γ => (i, γ))) s = runSeq (apG t) l s := by
  unfold runSeq
  rw [List.foldl_map]
  simp only [apI, hi]

theorem seqTrace_run (apG : Task → Γ → σ → σ) (prog : Task → List Γ) (ts pre : List Task) (s : σ) :
    runSeq (apI apG (pre ++ ts)) (seqTrace prog ts pre.length) s = runSeq (apProg apG prog) ts s := by
  induction ts generalizing pre s with
  | nil => rfl
  | cons t ts ih =>
    have hi : (pre ++ t :: ts)[pre.length]? = some t := by simp
    rw [seqTrace, runSeq_append, runSeq_cons, runSeq_map_base apG (pre ++ t :: ts) pre.length t hi]
    have := ih (pre ++ [t]) (runSeq (apG t) (prog t) s)
    rwa [List.append_assoc, List.length_append] at this

theorem filter_owner_map (i j : Nat) (l : List Γ) :
    (l.map (fun γ => (j, γ))).filter (fun x => x.1 = i) = if j = i then l.map (fun γ => (j, γ)) else [] := by
  split
  · next h => exact List.filter_eq_self.mpr (List.forall_mem_map.mpr fun γ _ => decide_eq_true h)
  · next h => exact List.filter_eq_nil_iff.mpr (List.forall_mem_map.mpr fun γ _ => by simpa using h)

theorem seqTrace_filter (prog : Task → List Γ) (ts : List Task) (base i : Nat) :
    (seqTrace prog ts base).filter (fun x => x.1 = i) =
      if base ≤ i then (((ts[i - base]?).map prog).getD []).map (fun γ => (i, γ)) else [] := by
  induction ts generalizing base with
  | nil => simp [seqTrace]
  | cons t ts ih =>
    rw [seqTrace, List.filter_append, ih, filter_owner_map]
    rcases Nat.lt_trichotomy base i with h | rfl | h
    · -- a later task: it sits one position further in the tail
      rw [if_neg (Nat.ne_of_lt h), if_pos (Nat.succ_le_of_lt h), if_pos (Nat.le_of_lt h), List.nil_append,
        ← Nat.succ_pred_eq_of_pos (Nat.sub_pos_of_lt h), List.getElem?_cons_succ, ← Nat.sub_succ]
    · rw [if_pos rfl, if_neg (Nat.not_succ_le_self base), if_pos (Nat.le_refl base), Nat.sub_self,
        List.append_nil]
      rfl
    · rw [if_neg (Nat.ne_of_gt h), if_neg (Nat.not_le_of_lt (Nat.lt_succ_of_lt h)),
        if_neg (Nat.not_le_of_lt h)]
      rfl

theorem owned_eq_map (i : Nat) (l : List (Nat × Γ)) (h : ∀ x ∈ l, x.1 = i) :
    l = (l.map (·.2)).map (fun γ => (i, γ)) := by
  rw [List.map_map]
  refine (List.map_id l).symm.trans (List.map_congr_left fun x hx => ?_)
  rw [← h x hx]
  rfl

/-- **Every interleaving of a pairwise compatible phase equals the tasks run one by one.** -/
theorem interleaving_seq (apG : Task → Γ → σ → σ) (prog : Task → List Γ) (R : Task → Task → Prop)
    (hcomm : ∀ u t, R u t → ∀ a b s, apG u a (apG t b s) = apG t b (apG u a s))
    (p : List Task) (hpw : p.Pairwise R) (hsym : ∀ {a b}, R a b → R b a)
    (tr : List (Nat × Γ)) (hi : IsInterleaving prog p tr) (s : σ) :
    runSeq (apI apG p) tr s = runSeq (apProg apG prog) p s := by
  rw [← seqTrace_run apG prog p [] s]
  refine runSeq_interleave (apI apG p) (fun x : Nat × Γ => x.1) _ _ (fun o => ?_) (fun a _ b _ hne s' => ?_) s
  · rw [List.length_nil, seqTrace_filter, if_pos (Nat.zero_le o), Nat.sub_zero,
      owned_eq_map o (tr.filter (fun x => x.1 = o)) (fun x hx => by simpa using (List.mem_filter.mp hx).2),
      hi o]
  · -- a step of a position outside the phase does nothing; the others belong to related tasks
    simp only [apI]
    cases hu : p[a.1]? with
    | none => cases p[b.1]? <;> rfl
    | some u =>
      cases ht : p[b.1]? with
      | none => rfl
      | some t => exact hcomm u t (pairwise_getElem?_ne hsym hpw hu ht hne) a.2 b.2 s'

end programs

/-! ### whole schedules: one trace per phase -/

section schedules
variable {Γ σ : Type}

/-- One trace per phase, each an interleaving of the programs of that phase's tasks. -/
inductive TracesOf (prog : Task → List Γ) : List (List (Nat × Γ)) → List (List Task) → Prop
  | nil : TracesOf prog [] []
  | cons {tr : List (Nat × Γ)} {p : List Task} {trs : List (List (Nat × Γ))} {ps : List (List Task)} :
      IsInterleaving prog p tr → TracesOf prog trs ps → TracesOf prog (tr :: trs) (p :: ps)

/-- Run the traces phase after phase. -/
def runTraces (apG : Task → Γ → σ → σ) : List (List (Nat × Γ)) → List (List Task) → σ → σ
  | tr :: trs, p :: ps, s => runTraces apG trs ps (runSeq (apI apG p) tr s)
  | _, _, s => s

theorem traces_seq (apG : Task → Γ → σ → σ) (prog : Task → List Γ)
    {trs : List (List (Nat × Γ))} {ps : List (List Task)} (h : TracesOf prog trs ps)
    (hpw : ∀ p ∈ ps, p.Pairwise fun u t => ∀ a b s, apG u a (apG t b s) = apG t b (apG u a s)) (s : σ) :
    runTraces apG trs ps s = runSeq (apProg apG prog) ps.flatten s := by
  induction h generalizing s with
  | nil => rfl
  | @cons tr p trs ps hi _ ih =>
    rw [runTraces, List.flatten_cons, runSeq_append,
      interleaving_seq apG prog _ (fun _ _ h => h) p (hpw p List.mem_cons_self)
        (fun h a b s => (h b a s).symm) tr hi s]
    exact ih (fun q hq => hpw q (List.mem_cons_of_mem p hq)) _

/-- **Step-level sequential equivalence.**  Tasks are programs (lists of steps); a run of the
schedule is, phase after phase, ANY interleaving of the programs of the phase's tasks.  If steps of
tasks that may run together commute, the run ends in the same state as running every task to
completion, one after the other, in declared order. -/
theorem phases_interleaving_equiv (apG : Task → Γ → σ → σ) (prog : Task → List Γ)
    {n nres : Nat} {masks : List Mask} (hm : masks.Nodup)
    (hcomm : ∀ u t, TaskOk n nres masks u t → ∀ a b s, apG u a (apG t b s) = apG t b (apG u a s))
    (sts : List (List Task)) (hasRun : List Bool)
    (hst : ∀ st ∈ sts, st.Pairwise (fun a b => TaskOk n nres masks b a))
    (hl : hasRun.length = (sts.headD []).length)
    (trs : List (List (Nat × Γ))) (htr : TracesOf prog trs (phaseTasks n nres masks sts hasRun)) (s : σ) :
    runTraces apG trs (phaseTasks n nres masks sts hasRun)
        (runSeq (apProg apG prog) (accepted (sts.headD []) hasRun) s) =
      runSeq (apProg apG prog) sts.flatten s := by
  rw [traces_seq apG prog htr (fun p hp => (phaseTasks_pairwise hm sts hasRun hst p hp).imp
    fun h a b s' => (hcomm _ _ h b a s').symm), ← runSeq_append]
  -- whole tasks commute because their steps do
  exact phaseTasks_seq (apProg apG prog) (fun u t h s' => runSeq_comm_lists (apG u) (apG t) (prog u) (prog t)
    (fun a _ b _ s'' => hcomm u t h a b s'') s') sts hasRun hst hl s

/-- `phases_interleaving_equiv` for the stages of a schedule: each statically compatible, its tasks
well formed. -/
theorem schedule_interleaving_equiv (apG : Task → Γ → σ → σ) (prog : Task → List Γ)
    {n nres : Nat} {masks : List Mask} (hm : masks.Nodup)
    (hcomm : ∀ u t, TaskOk n nres masks u t → ∀ a b s, apG u a (apG t b s) = apG t b (apG u a s))
    (sts : List (List Task)) (hasRun : List Bool)
    (hst : ∀ st ∈ sts, Compatible st ∧ ∀ t ∈ st, t.WF) (hl : hasRun.length = (sts.headD []).length)
    (trs : List (List (Nat × Γ))) (htr : TracesOf prog trs (phaseTasks n nres masks sts hasRun)) (s : σ) :
    runTraces apG trs (phaseTasks n nres masks sts hasRun)
        (runSeq (apProg apG prog) (accepted (sts.headD []) hasRun) s) =
      runSeq (apProg apG prog) sts.flatten s :=
  phases_interleaving_equiv apG prog hm hcomm sts hasRun
    (fun st h => compatible_pairwise n nres masks (hst st h).1 (hst st h).2) hl trs htr s

end schedules

end Brood
