/-
  Histories of world operations: the op language the history theorems quantify over and its step
  function on the L1 model.  Each operation is inverted without the invariant (`*_eq_ok`: what a
  successful call went through; `Entry::add`, `Entry::remove` and `write` down to the two branches
  they share, `World.overwrite` and `World.moveRow`), which gives what no operation touches
  (`*_frame`); under `Inv` the inversion is re-read in terms of the steps of Lemmas/Steps
  (`insert_cases` … `write_cases`), which gives preservation of `Inv` by every operation and along
  every history.
-/
import BroodModel.Lemmas.Sweep

namespace Brood
open Alloc World
open Serde (ArchShape)

/-- Public single-world operations. (`clone`, `clone_from` and deserialization involve a second
world and are treated separately.) -/
inductive Op
  | insert (shape : List Nat) (vals : List Val)
  | extend (shape : List Nat) (rows : List (List Val))
  | remove (id : Ident)
  | clear (order : List Mask)               -- `order`: the table iterator's order, any list
  | add (id : Ident) (c : Nat) (v : Val)    -- Entry::add
  | del (id : Ident) (c : Nat)              -- Entry::remove
  | write (id : Ident) (c : Nat) (v : Val)  -- mutation through a `&mut` entry view
  | reserve (shape : List Nat)
  | shrink
deriving Repr

def fstOut {α β} : Out (α × β) → Out α
  | .ok (a, _) => .ok a
  | .ub e => .ub e

/-- Results (identifiers, dropped values) are dropped: the invariant does not need them. -/
def step (w : World) : Op → Out World
  | .insert shape vals => fstOut (w.insert shape vals)
  | .extend shape rows => fstOut (w.extend shape rows)
  | .remove id => fstOut (w.remove id)
  | .clear order => fstOut (w.clear order)
  | .add id c v => fstOut (w.entryAdd id c v)
  | .del id c => fstOut (w.entryRemove id c)
  | .write id c v => fstOut (w.write id c v)
  | .reserve shape => w.reserve shape
  | .shrink => .ok w.shrinkToFit

def run (w : World) : List Op → Out World
  | [] => .ok w
  | op :: ops =>
    match step w op with
    | .ok w' => run w' ops
    | .ub e => .ub e

/-- What the type system enforces on the arguments of an operation over a registry of `n`
components: written entities have distinct registry components with one value of the right type
each; an added / written value has the type of the component it is stored under. -/
def Op.wt (n : Nat) : Op → Prop
  | .insert shape vals => World.shapeOk n shape vals = true
  | .extend shape rows => ∀ r ∈ rows, World.shapeOk n shape r = true
  | .add _ c v => c < n ∧ v.ty = c
  | .write _ c v => v.ty = c
  | _ => True

theorem fstOut_eq_ok {α β} {x : Out (α × β)} {a : α} (h : fstOut x = .ok a) : ∃ b, x = .ok (a, b) := by
  cases x with
  | ub e => cases h
  | ok p => cases h; exact ⟨p.2, rfl⟩

/-! ### the operations inverted: what a successful call went through (no invariant needed) -/

theorem insert_eq_ok {w w' : World} {shape : List Nat} {vals : List Val} {id : Ident}
    (e : w.insert shape vals = .ok (w', id)) :
    ∃ w1 h a al a', w.archForEntity (Mask.ofShape w.n shape) = .ok (w1, h) ∧ w1.getArch h = .ok a ∧
      w1.alloc.allocate ⟨h, a.ids.length⟩ = .ok (al, id) ∧
      a.pushRow (canonVals w.n shape vals) id = .ok a' ∧
      w' = { (w1.setArch a') with alloc := al, len := w1.len + 1 } := by
  unfold World.insert at e
  split at e
  · cases e
  split at e
  · cases e
  split at e
  · cases e
  split at e
  · cases e
  cases e
  exact ⟨_, _, _, _, _, ‹_›, ‹_›, ‹_›, ‹_›, rfl⟩

theorem extend_eq_ok {w w' : World} {shape : List Nat} {rows : List (List Val)} {ids : List Ident}
    (e : w.extend shape rows = .ok (w', ids)) :
    ∃ w1 h a al a', w.archForEntity (Mask.ofShape w.n shape) = .ok (w1, h) ∧ w1.getArch h = .ok a ∧
      w1.alloc.allocateBatch h a.ids.length rows.length = .ok (al, ids) ∧
      pushRows w.n shape a ids rows = .ok a' ∧
      w' = { (w1.setArch a') with alloc := al, len := w1.len + rows.length } := by
  unfold World.extend at e
  split at e
  · cases e
  split at e
  · cases e
  split at e
  · cases e
  split at e
  · cases e
  cases e
  exact ⟨_, _, _, _, _, ‹_›, ‹_›, ‹_›, ‹_›, rfl⟩

theorem remove_eq_ok {w w' : World} {id : Ident} {drops : List Val} (e : w.remove id = .ok (w', drops)) :
    (w.alloc.get id = none ∧ w' = w ∧ drops = []) ∨
    ∃ loc w1 eid al, w.alloc.get id = some loc ∧ w.takeRowAt loc.arch loc.row = .ok (w1, drops, eid) ∧
      w1.alloc.release id = .ok al ∧ w' = { w1 with alloc := al, len := w1.len - 1 } := by
  unfold World.remove at e
  split at e
  · cases e; exact .inl ⟨‹_›, rfl, rfl⟩
  split at e
  · cases e
  split at e
  · cases e
  cases e
  exact .inr ⟨_, _, _, _, ‹_›, ‹_›, ‹_›, rfl⟩

/-! ### the two branches of the `Entry` operations

The in-place branch that `Entry::add` and a write through a `&mut` view share, the row move that
`Entry::add` and `Entry::remove` share, and the head these two share (`World.atEntry`), as functions
of their own: the three operations are inverted down to the branch, each part once. -/

/-- `set_component_unchecked`: `v` over the cell of component `c` in row `r` of table `a`. -/
def World.overwrite (w : World) (a : Arch) (r c : Nat) (v : Val) : Out (World × Option (List Val)) :=
  match a.cols[colIndex a.mask c]? with
  | none => .ub .colCount
  | some col =>
    match col[r]? with
    | none => .ub .oobRow
    | some old =>
      if old.ty ≠ c ∨ v.ty ≠ c then .ub .typeConfusion
      else .ok (w.setArch { a with cols := a.cols.set (colIndex a.mask c) (col.set r v) }, some [old])

/-- Row `r` of table `h` is taken out and pushed, as `f` of its values, onto the table of `m'`, and
the entity's slot re-pointed; `g` of the values is what the caller drops. -/
def World.moveRow (w : World) (h r : Nat) (m' : Mask) (f g : List Val → List Val) :
    Out (World × Option (List Val)) :=
  match w.takeRowAt h r with
  | .ub e => .ub e
  | .ok (w1, vs, eid) =>
    match w1.archForMask m' with
    | .ub e => .ub e
    | .ok (w2, h') =>
      match w2.getArch h' with
      | .ub e => .ub e
      | .ok t =>
        match t.pushRow (f vs) eid with
        | .ub e => .ub e
        | .ok t' =>
          match w2.alloc.setLoc eid ⟨h', t.ids.length⟩ with
          | .ub e => .ub e
          | .ok al => .ok ({ (w2.setArch t') with alloc := al }, some (g vs))

/-- `w'` is `w` with `v` written over `old` in column `k`, row `r` of table `a`. -/
def Overwrote (w : World) (a : Arch) (k r : Nat) (old v : Val) (w' : World) : Prop :=
  ∃ col, a.cols[k]? = some col ∧ col[r]? = some old ∧ v.ty = old.ty ∧
    w' = w.setArch { a with cols := a.cols.set k (col.set r v) }

theorem Overwrote.alloc {w w' : World} {a : Arch} {k r : Nat} {old v : Val} (o : Overwrote w a k r old v w') :
    w'.alloc = w.alloc := by
  obtain ⟨_, -, -, -, rfl⟩ := o
  rfl

theorem Overwrote.res {w w' : World} {a : Arch} {k r : Nat} {old v : Val} (o : Overwrote w a k r old v w') :
    w'.res = w.res := by
  obtain ⟨col, -, -, -, rfl⟩ := o
  rfl

theorem overwrite_eq_ok {w w' : World} {a : Arch} {r c : Nat} {v : Val} {res : Option (List Val)}
    (e : w.overwrite a r c v = .ok (w', res)) :
    ∃ old, Overwrote w a (colIndex a.mask c) r old v w' ∧ res = some [old] := by
  unfold World.overwrite at e
  split at e
  next => cases e
  next col hcol =>
  split at e
  next => cases e
  next old hold =>
  split at e
  next => cases e
  next hty =>
  cases e
  have hty := not_or.mp hty
  exact ⟨old, ⟨col, hcol, hold, (Decidable.of_not_not hty.2).trans (Decidable.of_not_not hty.1).symm, rfl⟩, rfl⟩

theorem moveRow_eq_ok {w w' : World} {h r : Nat} {m' : Mask} {f g : List Val → List Val}
    {res : Option (List Val)} (e : w.moveRow h r m' f g = .ok (w', res)) :
    ∃ vs w1 eid w2 h' t t' al, res = some (g vs) ∧ w.takeRowAt h r = .ok (w1, vs, eid) ∧
      w1.archForMask m' = .ok (w2, h') ∧ w2.getArch h' = .ok t ∧ t.pushRow (f vs) eid = .ok t' ∧
      w2.alloc.setLoc eid ⟨h', t.ids.length⟩ = .ok al ∧ w' = { (w2.setArch t') with alloc := al } := by
  unfold World.moveRow at e
  split at e
  next => cases e
  next w1 vs eid e1 =>
  split at e
  next => cases e
  next w2 h' e2 =>
  split at e
  next => cases e
  next t e3 =>
  split at e
  next => cases e
  next t' e4 =>
  split at e
  next => cases e
  next al e5 =>
  cases e
  exact ⟨vs, w1, eid, w2, h', t, t', al, rfl, e1, e2, e3, e4, e5, rfl⟩

/-- What `Entry::add` and `Entry::remove` do before they differ: a stale identifier is a no-op;
otherwise the table of the entity's location is fetched and the operation is its `body` there. -/
def World.atEntry (w : World) (id : Ident) (body : Loc → Arch → Out (World × Option (List Val))) :
    Out (World × Option (List Val)) :=
  match w.alloc.get id with
  | none => .ok (w, none)
  | some loc =>
    match w.getArch loc.arch with
    | .ub e => .ub e
    | .ok a => body loc a

theorem atEntry_eq_ok {w w' : World} {id : Ident} {res : Option (List Val)}
    {body : Loc → Arch → Out (World × Option (List Val))} (e : w.atEntry id body = .ok (w', res)) :
    (w.alloc.get id = none ∧ w' = w ∧ res = none) ∨
    ∃ loc a, w.alloc.get id = some loc ∧ w.getArch loc.arch = .ok a ∧ body loc a = .ok (w', res) := by
  unfold World.atEntry at e
  split at e
  next hg => cases e; exact .inl ⟨hg, rfl, rfl⟩
  next loc hg =>
  split at e
  next => cases e
  next a hga => exact .inr ⟨loc, a, hg, hga, e⟩

theorem entryAdd_eq (w : World) (id : Ident) (c : Nat) (v : Val) :
    w.entryAdd id c v = w.atEntry id fun loc a =>
      if a.mask.has c then w.overwrite a loc.row c v
      else w.moveRow loc.arch loc.row (setBit a.mask c true)
        (insertAt · (colIndex (setBit a.mask c true) c) v) fun _ => [] := rfl

theorem entryRemove_eq (w : World) (id : Ident) (c : Nat) :
    w.entryRemove id c = w.atEntry id fun loc a =>
      if a.mask.has c then
        w.moveRow loc.arch loc.row (setBit a.mask c false) (·.eraseIdx (colIndex a.mask c))
          fun vs => (vs.drop (colIndex a.mask c)).take 1
      else .ok (w, some []) := rfl

theorem write_eq (w : World) (id : Ident) (c : Nat) (v : Val) :
    w.write id c v =
      match w.alloc.get id with
      | none => .ok (w, none)
      | some loc =>
        match w.findArch loc.arch with
        | none => .ok (w, none)
        | some a => if a.mask.has c then w.overwrite a loc.row c v else .ok (w, none) := rfl

theorem write_eq_ok {w w' : World} {id : Ident} {c : Nat} {v : Val} {res : Option (List Val)}
    (e : w.write id c v = .ok (w', res)) :
    (w' = w ∧ res = none ∧ (w.alloc.get id = none ∨ ∃ loc, w.alloc.get id = some loc ∧ w.findArch loc.arch = none)) ∨
    ∃ loc a, w.alloc.get id = some loc ∧ w.findArch loc.arch = some a ∧
      (if a.mask.has c then w.overwrite a loc.row c v else .ok (w, none)) = .ok (w', res) := by
  rw [write_eq] at e
  split at e
  next hg => cases e; exact .inl ⟨rfl, rfl, .inl hg⟩
  next loc hg =>
  split at e
  next hf => cases e; exact .inl ⟨rfl, rfl, .inr ⟨loc, hg, hf⟩⟩
  next a hf => exact .inr ⟨loc, a, hg, hf, e⟩

theorem reserve_eq_ok {w w' : World} {shape : List Nat} (e : w.reserve shape = .ok w') :
    ∃ h, w.archForEntity (Mask.ofShape w.n shape) = .ok (w', h) := by
  unfold World.reserve at e
  split at e
  · cases e
  cases e
  exact ⟨_, ‹_›⟩

/-! ### what no operation touches: the registry length and the resources -/

theorem archForEntity_frame {w w1 : World} {m : Mask} {h : Nat}
    (e : w.archForEntity m = .ok (w1, h)) : (w1.n, w1.res) = (w.n, w.res) := by
  unfold archForEntity at e
  split at e
  · split at e <;> cases e
    rfl
  split at e
  · split at e <;> cases e
    rfl
  · cases e; rfl

theorem archForMask_frame {w w1 : World} {m : Mask} {h : Nat}
    (e : w.archForMask m = .ok (w1, h)) : (w1.n, w1.res) = (w.n, w.res) := by
  unfold archForMask at e
  split at e
  · split at e <;> cases e
    rfl
  · cases e; rfl

theorem takeRowAt_frame {w w1 : World} {h r : Nat} {vs : List Val} {id : Ident}
    (e : w.takeRowAt h r = .ok (w1, vs, id)) : (w1.n, w1.res) = (w.n, w.res) := by
  unfold takeRowAt at e
  split at e
  · cases e
  split at e
  · cases e
  simp only at e
  split at e
  · cases e
  cases e
  rfl

theorem overwrite_frame {w w' : World} {a : Arch} {r c : Nat} {v : Val} {res : Option (List Val)}
    (e : w.overwrite a r c v = .ok (w', res)) : (w'.n, w'.res) = (w.n, w.res) := by
  obtain ⟨old, ⟨col, -, -, -, rfl⟩, -⟩ := overwrite_eq_ok e
  rfl

theorem moveRow_frame {w w' : World} {h r : Nat} {m' : Mask} {f g : List Val → List Val}
    {res : Option (List Val)} (e : w.moveRow h r m' f g = .ok (w', res)) :
    (w'.n, w'.res) = (w.n, w.res) := by
  obtain ⟨vs, w1, eid, w2, h', t, t', al, -, e1, e2, -, -, -, rfl⟩ := moveRow_eq_ok e
  exact (archForMask_frame e2).trans (takeRowAt_frame e1)

theorem step_frame {w w' : World} {op : Op} (e : step w op = .ok w') :
    (w'.n, w'.res) = (w.n, w.res) := by
  cases op with
  | insert shape vals =>
    obtain ⟨_, h⟩ := fstOut_eq_ok e
    obtain ⟨w1, h, a, al, a', e1, -, -, -, rfl⟩ := insert_eq_ok h
    exact (archForEntity_frame e1 :)
  | extend shape rows =>
    obtain ⟨_, h⟩ := fstOut_eq_ok e
    obtain ⟨w1, h, a, al, a', e1, -, -, -, rfl⟩ := extend_eq_ok h
    exact (archForEntity_frame e1 :)
  | remove id =>
    obtain ⟨_, h⟩ := fstOut_eq_ok e
    rcases remove_eq_ok h with ⟨-, rfl, -⟩ | ⟨loc, w1, eid, al, -, e1, -, rfl⟩
    · rfl
    · exact (takeRowAt_frame e1 :)
  | clear order =>
    obtain ⟨_, h⟩ := fstOut_eq_ok e
    obtain ⟨al, -, rfl, -⟩ := clear_eq_ok h
    rfl
  | add id c v =>
    obtain ⟨_, h⟩ := fstOut_eq_ok e
    rcases atEntry_eq_ok ((entryAdd_eq w id c v).symm.trans h) with ⟨-, rfl, -⟩ | ⟨loc, a, -, -, h⟩
    · rfl
    split at h
    · exact overwrite_frame h
    · exact moveRow_frame h
  | del id c =>
    obtain ⟨_, h⟩ := fstOut_eq_ok e
    rcases atEntry_eq_ok ((entryRemove_eq w id c).symm.trans h) with ⟨-, rfl, -⟩ | ⟨loc, a, -, -, h⟩
    · rfl
    split at h
    · exact moveRow_frame h
    · cases h; rfl
  | write id c v =>
    obtain ⟨_, h⟩ := fstOut_eq_ok e
    rcases write_eq_ok h with ⟨rfl, -⟩ | ⟨loc, a, -, -, h⟩
    · rfl
    split at h
    · exact overwrite_frame h
    · cases h; rfl
  | reserve shape =>
    obtain ⟨_, e1⟩ := reserve_eq_ok e
    exact archForEntity_frame e1
  | shrink => cases e; rfl

theorem step_n {w w' : World} {op : Op} (e : step w op = .ok w') : w'.n = w.n :=
  (Prod.mk.inj (step_frame e)).1

theorem step_res {w w' : World} {op : Op} (e : step w op = .ok w') : w'.res = w.res :=
  (Prod.mk.inj (step_frame e)).2

/-! ### `insert`, `extend`, `reserve` -/

theorem insert_cases {w w' : World} {shape : List Nat} {vals : List Val} {id : Ident} (hi : Inv w)
    (e : w.insert shape vals = .ok (w', id)) :
    ∃ w1 a al, ArchFor w w1 (Mask.ofShape w.n shape) a ∧
      (World.canonVals w.n shape vals).map (·.ty) = a.mask.comps ∧
      w1.alloc.allocate ⟨a.handle, a.ids.length⟩ = .ok (al, id) ∧
      w' = { (w1.setArch (a.push (World.canonVals w.n shape vals) id)) with alloc := al, len := w1.len + 1 } := by
  obtain ⟨w1, h, a, al, a', e1, e2, e3, e4, rfl⟩ := insert_eq_ok e
  obtain ⟨_, _, e1', af⟩ := archForEntity_spec hi.tables (ofShape_length w.n shape)
  cases e1.symm.trans e1'
  cases af.find.symm.trans (getArch_eq_ok.mp e2)
  obtain ⟨hty, -, rfl⟩ := pushRow_eq_ok.mp e4
  exact ⟨w1, a, al, af, hty, e3, rfl⟩

theorem insert_inv {w w' : World} {shape : List Nat} {vals : List Val} {id : Ident} (hi : Inv w)
    (e : w.insert shape vals = .ok (w', id)) : Inv w' := by
  obtain ⟨w1, a, al, af, hty, hal, rfl⟩ := insert_cases hi e
  exact push_inv (af.inv hi.linked) af.find hty hal

theorem reserve_cases {w w' : World} {shape : List Nat} (hi : Inv w) (e : w.reserve shape = .ok w') :
    ∃ a, ArchFor w w' (Mask.ofShape w.n shape) a := by
  obtain ⟨h, e1⟩ := reserve_eq_ok e
  obtain ⟨_, a, e1', af⟩ := archForEntity_spec hi.tables (ofShape_length w.n shape)
  cases e1.symm.trans e1'
  exact ⟨a, af⟩

theorem reserve_inv {w w' : World} {shape : List Nat} (hi : Inv w) (e : w.reserve shape = .ok w') :
    Inv w' :=
  let ⟨_, af⟩ := reserve_cases hi e
  af.inv hi.linked

theorem pushRows_cons_eq_ok {n : Nat} {shape : List Nat} {a a' : Arch} {id : Ident} {ids : List Ident}
    {r : List Val} {rows : List (List Val)}
    (e : World.pushRows n shape a (id :: ids) (r :: rows) = .ok a') :
    (World.canonVals n shape r).map (·.ty) = a.mask.comps ∧
      World.pushRows n shape (a.push (World.canonVals n shape r) id) ids rows = .ok a' := by
  simp only [World.pushRows] at e
  split at e
  next => cases e
  next a1 h1 =>
    obtain ⟨hty, -, rfl⟩ := pushRow_eq_ok.mp h1
    exact ⟨hty, e⟩

theorem pushRows_handle {n : Nat} {shape : List Nat} (rows : List (List Val)) :
    ∀ {a a' : Arch} {ids : List Ident}, World.pushRows n shape a ids rows = .ok a' → a'.handle = a.handle := by
  induction rows with
  | nil =>
    intro a a' ids e
    rw [World.pushRows] at e
    cases e
    rfl
  | cons r rows ih =>
    intro a a' ids e
    cases ids with
    | nil => cases e
    | cons id ids => exact (ih (pushRows_cons_eq_ok e).2).trans rfl

/-- A batch is pushed row by row: `allocate_batch` hands out what successive `allocate`s would. -/
theorem pushRows_inv {n : Nat} {shape : List Nat} (rows : List (List Val)) :
    ∀ {w : World}, Inv w → ∀ {a a' : Arch}, w.findArch a.handle = some a →
      ∀ {al : Alloc} {ids : List Ident},
      w.alloc.allocateBatch a.handle a.ids.length rows.length = .ok (al, ids) →
      World.pushRows n shape a ids rows = .ok a' →
      Inv { (w.setArch a') with alloc := al, len := w.len + rows.length } := by
  induction rows with
  | nil =>
    intro w hi a a' hf al ids hal hp
    cases hal
    cases hp
    show Inv ⟨w.n, replaceH w.archs a, w.typeIds, w.foreign, w.alloc, w.len + 0, w.res, w.next⟩
    rw [replaceH_self hi.handles_nodup (findArch_some hf).1]
    exact hi
  | cons r rows ih =>
    intro w hi a a' hf al ids hal hp
    obtain ⟨al1, id0, ids', h1, h2, rfl⟩ := allocateBatch_succ_eq_ok hal
    obtain ⟨hty, hp⟩ := pushRows_cons_eq_ok hp
    have hi2 := ih (push_inv hi hf hty h1)
      (findArch_setArch_same w (a.push (World.canonVals n shape r) id0) hf)
      (by rw [Arch.push_ids_length]; exact h2) hp
    -- the table was replaced twice: by `a` with the first row pushed, then by `a'`
    show Inv ⟨w.n, replaceH w.archs a', w.typeIds, w.foreign, al, w.len + (rows.length + 1), w.res, w.next⟩
    rw [← replaceH_replaceH w.archs (a1 := a.push (World.canonVals n shape r) id0) (pushRows_handle rows hp).symm,
      show w.len + (rows.length + 1) = (w.len + 1) + rows.length by omega]
    exact hi2

theorem extend_cases {w w' : World} {shape : List Nat} {rows : List (List Val)} {ids : List Ident}
    (hi : Inv w) (e : w.extend shape rows = .ok (w', ids)) :
    ∃ w1 a al a', ArchFor w w1 (Mask.ofShape w.n shape) a ∧
      w1.alloc.allocateBatch a.handle a.ids.length rows.length = .ok (al, ids) ∧
      World.pushRows w.n shape a ids rows = .ok a' ∧
      w' = { (w1.setArch a') with alloc := al, len := w1.len + rows.length } := by
  obtain ⟨w1, h, a, al, a', e1, e2, e3, e4, rfl⟩ := extend_eq_ok e
  obtain ⟨_, _, e1', af⟩ := archForEntity_spec hi.tables (ofShape_length w.n shape)
  cases e1.symm.trans e1'
  cases af.find.symm.trans (getArch_eq_ok.mp e2)
  exact ⟨w1, a, al, a', af, e3, e4, rfl⟩

theorem extend_inv {w w' : World} {shape : List Nat} {rows : List (List Val)} {ids : List Ident}
    (hi : Inv w) (e : w.extend shape rows = .ok (w', ids)) : Inv w' := by
  obtain ⟨w1, a, al, a', af, hal, hp, rfl⟩ := extend_cases hi e
  exact pushRows_inv rows (af.inv hi.linked) af.find hal hp

/-! ### `remove` -/

theorem remove_cases {w w' : World} {id : Ident} {drops : List Val} (hi : Inv w)
    (e : w.remove id = .ok (w', drops)) :
    (w.alloc.get id = none ∧ w' = w ∧ drops = []) ∨
    ∃ a r w1 al, LiveAt w id a r ∧ Taken w id a r w1 ∧ w1.alloc.release id = .ok al ∧
      w' = { w1 with alloc := al, len := w1.len - 1 } ∧ drops = a.row r := by
  rcases remove_eq_ok e with h | ⟨loc, w1, eid, al, hg, e1, e2, rfl⟩
  · exact .inl h
  obtain ⟨a, la, hh⟩ := hi.liveAt hg
  obtain ⟨_, e1', tk⟩ := takeRowAt_spec hi la
  cases (hh ▸ e1).symm.trans e1'
  exact .inr ⟨a, _, w1, al, la, tk, e2, rfl, rfl⟩

theorem remove_inv {w w' : World} {id : Ident} {drops : List Val} (hi : Inv w)
    (e : w.remove id = .ok (w', drops)) : Inv w' := by
  rcases remove_cases hi e with ⟨-, rfl, -⟩ | ⟨a, r, w1, al, -, tk, e2, rfl, -⟩
  · exact hi
  · exact tk.detached.release e2

/-! ### `Entry::add`, `Entry::remove`, writes -/

theorem Overwrote.inv {w w' : World} {a : Arch} {k r : Nat} {old v : Val} (hi : Inv w)
    (hf : w.findArch a.handle = some a) (o : Overwrote w a k r old v w') : Inv w' := by
  obtain ⟨col, hcol, hold, hv, rfl⟩ := o
  refine Inv.of_halves (hi.tables.setArch hf rfl ((hi.tables.find_shape hf).setCell hcol hold hv))
    (hi.linked.congr rfl (fun l => ?_) ?_)
  · rw [idAt_setArch { a with cols := a.cols.set k (col.set r v) } hf]
    split
    next h => rw [← idAt_of_find hf, ← h]
    next => rfl
  · have := sum_ids_setArch hi.handles_nodup { a with cols := a.cols.set k (col.set r v) } hf
    exact hi.len.trans (Nat.add_right_cancel this).symm

/-- `w'` is `w` with the row of the live `id` (row `r` of table `a`) moved, as `cv`, to the table
of component set `m'`. -/
def Moved (w : World) (id : Ident) (a : Arch) (r : Nat) (m' : Mask) (cv : List Val) (w' : World) : Prop :=
  ∃ w1 w2 t al, Taken w id a r w1 ∧ ArchFor w1 w2 m' t ∧ cv.map (·.ty) = t.mask.comps ∧
    w2.alloc.setLoc id ⟨t.handle, t.ids.length⟩ = .ok al ∧
    w' = { (w2.setArch (t.push cv id)) with alloc := al }

theorem Moved.inv {w w' : World} {id : Ident} {a : Arch} {r : Nat} {m' : Mask} {cv : List Val}
    (mv : Moved w id a r m' cv w') : Inv w' := by
  obtain ⟨w1, w2, t, al, tk, af, hty, hset, rfl⟩ := mv
  exact (tk.detached.archFor af).place af.find hty hset

theorem Moved.res {w w' : World} {id : Ident} {a : Arch} {r : Nat} {m' : Mask} {cv : List Val}
    (mv : Moved w id a r m' cv w') : w'.res = w.res := by
  obtain ⟨w1, w2, t, al, tk, af, -, -, rfl⟩ := mv
  exact af.res.trans tk.res

theorem moveRow_moved {w w' : World} (hi : Inv w) {id : Ident} {a : Arch} {r : Nat} (la : LiveAt w id a r)
    {m' : Mask} (hm : m'.length = w.n) {f g : List Val → List Val} {res : Option (List Val)}
    (e : w.moveRow a.handle r m' f g = .ok (w', res)) :
    res = some (g (a.row r)) ∧ Moved w id a r m' (f (a.row r)) w' := by
  obtain ⟨vs, w1, eid, w2, h', t, t', al, rfl, e1, e2, e3, e4, e5, rfl⟩ := moveRow_eq_ok e
  obtain ⟨_, e1', tk⟩ := takeRowAt_spec hi la
  cases e1.symm.trans e1'
  obtain ⟨_, _, e2', af⟩ := archForMask_spec tk.detached.tables (m := m') (by rw [tk.n]; exact hm)
  cases e2.symm.trans e2'
  cases af.find.symm.trans (getArch_eq_ok.mp e3)
  obtain ⟨hty, -, rfl⟩ := pushRow_eq_ok.mp e4
  exact ⟨rfl, w1, w2, t, al, tk, af, hty, e5, rfl⟩

theorem entryAdd_cases {w w' : World} {id : Ident} {c : Nat} {v : Val} {res : Option (List Val)}
    (hi : Inv w) (e : w.entryAdd id c v = .ok (w', res)) :
    (w.alloc.get id = none ∧ w' = w ∧ res = none) ∨ ∃ a r, LiveAt w id a r ∧
      ((a.mask.has c = true ∧ ∃ old, Overwrote w a (colIndex a.mask c) r old v w' ∧ res = some [old]) ∨
       (a.mask.has c = false ∧ res = some [] ∧
        Moved w id a r (World.setBit a.mask c true)
          (World.insertAt (a.row r) (colIndex (World.setBit a.mask c true) c) v) w')) := by
  rcases atEntry_eq_ok ((entryAdd_eq w id c v).symm.trans e) with h | ⟨loc, a, hg, hga, h⟩
  · exact .inl h
  obtain ⟨la, hh⟩ := hi.liveAt_find hg (getArch_eq_ok.mp hga)
  refine .inr ⟨a, loc.row, la, ?_⟩
  split at h
  next hc => exact .inl ⟨hc, overwrite_eq_ok h⟩
  next hc =>
    exact .inr ⟨(Bool.not_eq_true _).mp hc,
      moveRow_moved hi la (by simp [World.setBit, la.ok.mask_len]) (hh ▸ h)⟩

theorem entryRemove_cases {w w' : World} {id : Ident} {c : Nat} {res : Option (List Val)}
    (hi : Inv w) (e : w.entryRemove id c = .ok (w', res)) :
    (w.alloc.get id = none ∧ w' = w ∧ res = none) ∨ ∃ a r, LiveAt w id a r ∧
      ((a.mask.has c = false ∧ w' = w ∧ res = some []) ∨
       (a.mask.has c = true ∧ res = some ((a.row r).drop (colIndex a.mask c) |>.take 1) ∧
        Moved w id a r (World.setBit a.mask c false) ((a.row r).eraseIdx (colIndex a.mask c)) w')) := by
  rcases atEntry_eq_ok ((entryRemove_eq w id c).symm.trans e) with h | ⟨loc, a, hg, hga, h⟩
  · exact .inl h
  obtain ⟨la, hh⟩ := hi.liveAt_find hg (getArch_eq_ok.mp hga)
  refine .inr ⟨a, loc.row, la, ?_⟩
  split at h
  next hc =>
    exact .inr ⟨hc, moveRow_moved hi la (by simp [World.setBit, la.ok.mask_len]) (hh ▸ h)⟩
  next hc => cases h; exact .inl ⟨(Bool.not_eq_true _).mp hc, rfl, rfl⟩

theorem write_cases {w w' : World} {id : Ident} {c : Nat} {v : Val} {res : Option (List Val)}
    (hi : Inv w) (e : w.write id c v = .ok (w', res)) :
    (w.alloc.get id = none ∧ w' = w ∧ res = none) ∨ ∃ a r, LiveAt w id a r ∧
      ((a.mask.has c = false ∧ w' = w ∧ res = none) ∨
       (a.mask.has c = true ∧ ∃ old, Overwrote w a (colIndex a.mask c) r old v w' ∧ res = some [old])) := by
  rcases write_eq_ok e with ⟨rfl, rfl, hg | ⟨loc, hg, hf⟩⟩ | ⟨loc, a, hg, hf, h⟩
  · exact .inl ⟨hg, rfl, rfl⟩
  · obtain ⟨a, hf', -⟩ := hi.live_row hg
    cases hf.symm.trans hf'
  obtain ⟨la, -⟩ := hi.liveAt_find hg hf
  refine .inr ⟨a, loc.row, la, ?_⟩
  split at h
  next hc => exact .inr ⟨hc, overwrite_eq_ok h⟩
  next hc => cases h; exact .inl ⟨(Bool.not_eq_true _).mp hc, rfl, rfl⟩

theorem entryAdd_inv {w w' : World} {id : Ident} {c : Nat} {v : Val} {res : Option (List Val)}
    (hi : Inv w) (e : w.entryAdd id c v = .ok (w', res)) : Inv w' := by
  rcases entryAdd_cases hi e with ⟨-, rfl, -⟩ | ⟨a, r, la, ⟨-, old, o, -⟩ | ⟨-, -, mv⟩⟩
  · exact hi
  · exact o.inv hi la.find
  · exact mv.inv

theorem entryRemove_inv {w w' : World} {id : Ident} {c : Nat} {res : Option (List Val)}
    (hi : Inv w) (e : w.entryRemove id c = .ok (w', res)) : Inv w' := by
  rcases entryRemove_cases hi e with ⟨-, rfl, -⟩ | ⟨a, r, -, ⟨-, rfl, -⟩ | ⟨-, -, mv⟩⟩
  · exact hi
  · exact hi
  · exact mv.inv

theorem write_inv {w w' : World} {id : Ident} {c : Nat} {v : Val} {res : Option (List Val)}
    (hi : Inv w) (e : w.write id c v = .ok (w', res)) : Inv w' := by
  rcases write_cases hi e with ⟨-, rfl, -⟩ | ⟨a, r, la, ⟨-, rfl, -⟩ | ⟨-, old, o, -⟩⟩
  · exact hi
  · exact hi
  · exact o.inv hi la.find

/-! ### histories -/

theorem step_inv {w w' : World} (hi : Inv w) {op : Op} (e : step w op = .ok w') : Inv w' := by
  cases op with
  | insert shape vals => obtain ⟨_, h⟩ := fstOut_eq_ok e; exact insert_inv hi h
  | extend shape rows => obtain ⟨_, h⟩ := fstOut_eq_ok e; exact extend_inv hi h
  | remove id => obtain ⟨_, h⟩ := fstOut_eq_ok e; exact remove_inv hi h
  | clear order => obtain ⟨_, h⟩ := fstOut_eq_ok e; exact clear_inv hi h
  | add id c v => obtain ⟨_, h⟩ := fstOut_eq_ok e; exact entryAdd_inv hi h
  | del id c => obtain ⟨_, h⟩ := fstOut_eq_ok e; exact entryRemove_inv hi h
  | write id c v => obtain ⟨_, h⟩ := fstOut_eq_ok e; exact write_inv hi h
  | reserve shape => exact reserve_inv hi e
  | shrink => cases e; exact shrink_inv hi

theorem run_cons_eq_ok {w w' : World} {op : Op} {ops : List Op} (e : run w (op :: ops) = .ok w') :
    ∃ w1, step w op = .ok w1 ∧ run w1 ops = .ok w' := by
  simp only [run] at e
  split at e
  · exact ⟨_, ‹_›, e⟩
  · cases e

theorem run_lift {P : World → Prop} (hstep : ∀ {w w' op}, P w → step w op = .ok w' → P w')
    (ops : List Op) : ∀ {w w' : World}, P w → run w ops = .ok w' → P w' := by
  induction ops with
  | nil =>
    intro _ _ h e
    cases e
    exact h
  | cons _ ops ih =>
    intro _ _ h e
    obtain ⟨_, e1, e2⟩ := run_cons_eq_ok e
    exact ih (hstep h e1) e2

theorem run_inv {w w' : World} (hi : Inv w) (ops : List Op) (e : run w ops = .ok w') : Inv w' :=
  run_lift (fun h e => step_inv h e) ops hi e

theorem run_res (ops : List Op) {w w' : World} (h : run w ops = .ok w') : w'.res = w.res :=
  run_lift (P := fun u => u.res = w.res) (fun hu e => (step_res e).trans hu) ops rfl h

theorem inv_init (n : Nat) (res : List Val) : Inv (World.init n res) := by
  constructor <;> simp [World.init, Alloc.empty]

end Brood
