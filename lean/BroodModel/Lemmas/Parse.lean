/-
  The deserializer's visitors as a parser monad.  `Serde.P` is a state-and-error monad over the
  token list; the visitors of `BroodModel.Serde` that the proofs go through step by step, written
  there with explicit matches, are `do` blocks over it (`*_do`, `*_succ`; the identifier and
  allocator visitors are evaluated as they stand), and the four element loops are one `traverse`
  (`*_eq`).  Two notions carry the two directions of reasoning, each closed under `pure`, `>>=`,
  `elem`, `traverse` and `tupleOf`:
  `Reads p s x` — on the tokens `s`, whatever follows them, `p` returns `x` and consumes exactly
  `s` (printer / parser inversion); `Yields p Q` — whatever `p` accepts satisfies `Q` (untrusted
  input).
-/
import BroodModel.Serde

namespace Brood
namespace Serde

instance : Monad P := inferInstanceAs (Monad (StateT (List Tok) (Except String)))

def fail {α} (msg : String) : P α := fun _ => .error msg

def lift {α} (r : Except String α) : P α := fun ts => r.map (·, ts)

def traverse {α γ} (q : γ → P α) : List γ → P (List α)
  | [] => pure []
  | c :: cs => do let x ← q c; let xs ← traverse q cs; pure (x :: xs)

theorem bind_apply {α β} (p : P α) (f : α → P β) (ts : List Tok) :
    (p >>= f) ts = p ts >>= fun r => f r.1 r.2 := rfl

theorem ok_bind {α β} (x : α) (f : α → Except String β) : Except.ok x >>= f = f x := rfl

theorem pure_apply {α} (x : α) (ts : List Tok) : (pure x : P α) ts = pure (x, ts) := rfl

theorem lift_apply {α} (r : Except String α) (ts : List Tok) : lift r ts = (·, ts) <$> r := rfl

section
-- A visitor's nested matches and the binds of its `do` block unfold to the same `casesOn`s, but
-- with smart unfolding on the unifier does not unfold a match whose scrutinee is a variable and
-- compares the two matchers by name; the kernel accepts `rfl` either way.
set_option smartUnfolding false

theorem elem_do {α} (endTok : Tok) (p : P α) :
    elem endTok p = (do if ← hasElem endTok then p else fail "invalid-length") := by
  funext ts
  rw [bind_apply]
  unfold elem
  cases hasElem endTok ts with
  | error e => rfl
  | ok r => obtain ⟨b, t⟩ := r; cases b <;> rfl

theorem tupleOf_do {α} (len : Nat) (p : P α) :
    tupleOf len p = (do
      expectTup len
      let xs ← elems .tupE p len
      assertEnded false .tupE
      pure xs) := rfl

theorem deVal_do (k : Kinds) (e ty : Nat) :
    deVal k e ty = (do
      let n ← deU64
      pure (if k.kindOf ty == 'z' then ⟨ty, 0⟩ else ⟨ty, n % epochBase + e * epochBase⟩)) := rfl

theorem deMask_do (n : Nat) :
    deMask n = (do
      let bytes ← tupleOf ((n + 7) / 8) deU8
      if n ≠ 0 && n % 8 ≠ 0 && bytes.getD ((n + 7) / 8 - 1) 0 &&& (255 <<< (n % 8)) % 256 ≠ 0 then
        fail "invalid-padding"
      else pure (Mask.unpack n bytes)) := by
  funext ts
  rw [bind_apply]
  unfold deMask
  cases tupleOf ((n + 7) / 8) deU8 ts with
  | error e => rfl
  | ok r =>
    rw [ok_bind]
    dsimp only
    split <;> rfl

theorem deRow_do (k : Kinds) (e : Nat) (comps : List Nat) :
    deRow k e comps = (do
      expectTup (comps.length + 1)
      let id ← elem .tupE deIdent
      let vs ← deRow.go k e comps
      assertEnded false .tupE
      pure (id, vs)) := rfl

theorem deArchBodyRows_do (k : Kinds) (e h : Nat) (mask : Mask) (length : Nat) :
    deArchBodyRows k e h mask length = (do
      let rows ← tupleOf length (deRow k e mask.comps)
      pure ⟨h, mask, rows.map (·.1), transpose mask.comps.length (rows.map (·.2))⟩) := rfl

theorem deArchBodyCols_do (k : Kinds) (e h : Nat) (mask : Mask) (length : Nat) :
    deArchBodyCols k e h mask length = (do
      expectTup (mask.comps.length + 1)
      let ids ← elem .tupE (tupleOf length deIdent)
      let cols ← deCols k e length mask.comps
      assertEnded false .tupE
      pure ⟨h, mask, ids, cols⟩) := rfl

theorem deRes_do (k : Kinds) (nres e : Nat) :
    deRes k nres e = (do
      expectTup nres
      let vs ← deResGo k e (List.range nres)
      assertEnded false .tupE
      pure vs) := rfl

theorem deArch_do (k : Kinds) (hr : Bool) (n e h : Nat) :
    deArch k hr n e h = (do
      match ← next with
      | .newtype name =>
        if name ≠ "Archetype" then fail "invalid-value" else do
        expectTup 3
        let mask ← elem .tupE (deMask n)
        let length ← elem .tupE deU64
        let a ← elem .tupE (if hr then deArchBodyRows k e h mask length
                            else deArchBodyCols k e h mask length)
        assertEnded false .tupE
        pure a
      | _ => fail "invalid-type") := by
  funext ts
  cases ts with
  | nil => rfl
  | cons t ts =>
    cases t with
    | newtype name =>
      show (if name ≠ "Archetype" then _ else _) =
        (if name ≠ "Archetype" then fail "invalid-value" else _) ts
      split <;> rfl
    | _ => rfl

theorem elems_eq {α} (endTok : Tok) (p : P α) (k : Nat) :
    elems endTok p k = traverse (fun _ : Unit => elem endTok p) (List.replicate k ()) := by
  induction k with
  | zero => rfl
  | succ k ih => rw [List.replicate_succ, traverse, ← ih]; rfl

theorem deRow_go_eq (k : Kinds) (e : Nat) (comps : List Nat) :
    deRow.go k e comps = traverse (fun c => elem .tupE (deVal k e c)) comps := rfl

theorem deCols_eq (k : Kinds) (e length : Nat) (comps : List Nat) :
    deCols k e length comps = traverse (fun c => elem .tupE (tupleOf length (deVal k e c))) comps := rfl

theorem deResGo_eq (k : Kinds) (e : Nat) (ps : List Nat) :
    deResGo k e ps = traverse (fun p => elem .tupE (deVal k e (resTy p))) ps := rfl

end

theorem deFree_succ (fuel : Nat) (acc : List Ident) :
    deFree (fuel + 1) acc = (do
      match ← hasElem .seqE with
      | false => pure acc
      | true => do
        let i ← deIdent
        deFree fuel (acc ++ [i])) := by
  funext ts
  simp only [bind_apply, deFree]
  cases hasElem .seqE ts with
  | error _ => rfl
  | ok r =>
    obtain ⟨b, ts'⟩ := r
    cases b
    · rfl
    · set_option smartUnfolding false in rfl

theorem deArchs_succ (k : Kinds) (hr : Bool) (n e fuel h : Nat) (acc : List Arch) :
    deArchs k hr n e (fuel + 1) h acc = (do
      match ← hasElem .seqE with
      | false => pure acc
      | true => do
        let a ← deArch k hr n e h
        if acc.any (fun b => b.mask == a.mask) then fail "non-unique-identifier"
        else deArchs k hr n e fuel (h + 1) (acc ++ [a])) := by
  funext ts
  simp only [bind_apply, deArchs]
  cases hasElem .seqE ts with
  | error _ => rfl
  | ok r =>
    obtain ⟨b, ts'⟩ := r
    cases b
    · rfl
    · simp only [ok_bind, bind_apply]
      cases deArch k hr n e h ts' with
      | error _ => rfl
      | ok r => simp only [ok_bind]; split <;> rfl

def Reads {α} (p : P α) (s : List Tok) (x : α) : Prop := ∀ rest, p (s ++ rest) = .ok (x, rest)

/-- The first token is there and is not the end token, so `hasElem` says "one more". -/
def Starts (s : List Tok) (endTok : Tok) : Prop := ∃ t ts, s = t :: ts ∧ t ≠ endTok

theorem Starts.of_cons {t endTok : Tok} {ts : List Tok} (h : t ≠ endTok) : Starts (t :: ts) endTok :=
  ⟨t, ts, rfl, h⟩

theorem reads_tupB (n : Nat) : Reads (expectTup n) [.tupB n] () := fun _ => if_pos rfl
theorem reads_end (t : Tok) : Reads (assertEnded false t) [t] () := fun _ => if_pos (beq_self_eq_true t)
theorem reads_next (t : Tok) : Reads next [t] t := fun _ => rfl
theorem reads_u64 (n : Nat) : Reads deU64 [.u64 n] n := fun _ => rfl

namespace Reads
variable {α β γ : Type} {p : P α} {s t : List Tok} {x : α}

theorem pure (x : α) : Reads (Pure.pure x) [] x := fun _ => rfl

theorem ret {y : α} (h : x = y) : Reads (Pure.pure x) [] y := h ▸ pure x

theorem bind {f : α → P β} {y : β} (hp : Reads p s x) (hf : Reads (f x) t y) :
    Reads (p >>= f) (s ++ t) y := by
  intro rest
  rw [bind_apply, List.append_assoc, hp]
  exact hf rest

theorem of_eq (h : Reads p s x) (e : t = s) : Reads p t x := e ▸ h

theorem lift {r : Except String α} (h : r = .ok x) : Reads (Serde.lift r) [] x := fun _ => by
  rw [h]; rfl

/-- `hasElem` looks at the next token and takes it only if it is the end token. -/
theorem hasElem_more {endTok : Tok} {f : Bool → P α} (h : Reads (f true) s x) (hs : Starts s endTok) :
    Reads (hasElem endTok >>= f) s x := by
  obtain ⟨t, ts, rfl, hne⟩ := hs
  intro rest
  have : (t == endTok) = false := beq_eq_false_iff_ne.mpr hne
  rw [← h rest, bind_apply]
  simp only [List.cons_append, hasElem, this]
  rfl

theorem hasElem_end {endTok : Tok} {f : Bool → P α} (h : Reads (f false) s x) :
    Reads (hasElem endTok >>= f) (endTok :: s) x := by
  intro rest
  rw [← h rest, bind_apply]
  simp only [List.cons_append, hasElem, beq_self_eq_true]
  rfl

theorem elem {endTok : Tok} (h : Reads p s x) (hs : Starts s endTok) :
    Reads (Serde.elem endTok p) s x := by
  rw [elem_do]
  exact hasElem_more h hs

theorem traverse {q : γ → P α} {ser : β → List Tok} {f : β → α} (cs : List γ) (xs : List β)
    (hl : cs.length = xs.length)
    (h : ∀ (j : Nat) c x, cs[j]? = some c → xs[j]? = some x → Reads (q c) (ser x) (f x)) :
    Reads (Serde.traverse q cs) (xs.flatMap ser) (xs.map f) := by
  induction cs generalizing xs with
  | nil =>
    cases xs with
    | nil => exact pure _
    | cons => cases hl
  | cons c cs ih =>
    cases xs with
    | nil => cases hl
    | cons x xs =>
      exact of_eq (.bind (h 0 c x rfl rfl) (.bind (ih xs (Nat.succ.inj hl) fun j => h (j + 1)) (.pure _)))
        (by rw [List.flatMap_cons, List.append_nil])

theorem tupleOf {ser : β → List Tok} {f : β → α} (xs : List β)
    (h : ∀ x ∈ xs, Reads p (ser x) (f x) ∧ Starts (ser x) .tupE) :
    Reads (Serde.tupleOf xs.length p) (.tupB xs.length :: xs.flatMap ser ++ [.tupE]) (xs.map f) := by
  rw [tupleOf_do, elems_eq]
  refine .of_eq (.bind (reads_tupB _) <|
    .bind (traverse (ser := ser) (f := f) _ xs (by simp) fun j _ x _ hx => ?_) <|
    .bind (reads_end _) (.pure _)) (by simp)
  obtain ⟨h1, h2⟩ := h x (List.mem_of_getElem? hx)
  exact h1.elem h2

end Reads

def Yields {α} (p : P α) (Q : α → Prop) : Prop := ∀ ts x ts', p ts = .ok (x, ts') → Q x

namespace Yields
variable {α β γ : Type} {p : P α} {Q : α → Prop}

theorem pure {x : α} (h : Q x) : Yields (Pure.pure x) Q := by
  rintro ts y ts' ⟨⟩
  exact h

theorem fail (msg : String) : Yields (Serde.fail msg) Q := by rintro ts y ts' ⟨⟩

theorem triv : Yields p fun _ => True := fun _ _ _ _ => trivial

theorem bind {f : α → P β} {R : β → Prop} (hp : Yields p Q) (hf : ∀ x, Q x → Yields (f x) R) :
    Yields (p >>= f) R := by
  intro ts y ts' e
  rw [bind_apply] at e
  cases hx : p ts with
  | error _ => rw [hx] at e; cases e
  | ok r => rw [hx] at e; exact hf r.1 (hp _ _ _ hx) _ _ _ e

theorem ite {c : Prop} [Decidable c] {q : P α} (hp : Yields p Q) (hq : Yields q Q) :
    Yields (if c then p else q) Q := by split <;> assumption

theorem lift {r : Except String α} (h : ∀ x, r = .ok x → Q x) : Yields (Serde.lift r) Q := by
  intro ts x ts' e
  cases r with
  | error _ => cases e
  | ok y => cases e; exact h _ rfl

theorem elem {endTok : Tok} (h : Yields p Q) : Yields (Serde.elem endTok p) Q := by
  rw [elem_do]
  exact triv.bind fun b _ => by cases b with | false => exact fail _ | true => exact h

theorem traverse {q : γ → P α} {Q : γ → α → Prop} (h : ∀ c, Yields (q c) (Q c)) (cs : List γ) :
    Yields (Serde.traverse q cs) fun xs => xs.length = cs.length ∧
      ∀ (j : Nat) c x, cs[j]? = some c → xs[j]? = some x → Q c x := by
  induction cs with
  | nil => exact pure ⟨rfl, by simp⟩
  | cons c cs ih =>
    refine (h c).bind fun x hx => ih.bind fun xs ⟨hl, hxs⟩ =>
      pure ⟨congrArg (· + 1) hl, fun j c' x' hc hx' => ?_⟩
    cases j with
    | zero => cases hc; cases hx'; exact hx
    | succ j => exact hxs j c' x' hc hx'

theorem tupleOf {len : Nat} (h : Yields p Q) :
    Yields (tupleOf len p) fun xs => xs.length = len ∧ ∀ x ∈ xs, Q x := by
  rw [tupleOf_do, elems_eq]
  refine triv.bind fun _ _ => (traverse (fun _ => h.elem) _).bind fun xs ⟨hl, hxs⟩ =>
    triv.bind fun _ _ => pure ?_
  rw [List.length_replicate] at hl
  refine ⟨hl, fun x hx => ?_⟩
  obtain ⟨j, hj⟩ := List.getElem?_of_mem hx
  have hjl : j < len := hl ▸ (List.getElem?_eq_some_iff.mp hj).1
  exact hxs j () x (List.getElem?_replicate.trans (if_pos hjl)) hj

end Yields

/-- `deserialize` as a parser: `deserialize` runs it and forgets the remaining tokens. -/
def deWorld (k : Kinds) (hr : Bool) (n nres e next : Nat) : P World := do
  expectTup 3
  let archs ← elem .tupE (deArchsSeq k hr n e next)
  let (length, free) ← elem .tupE deAllocParts
  let al ← lift (fromParts length free archs)
  let res ← elem .tupE (deRes k nres e)
  assertEnded false .tupE
  pure (assemble n next archs al res)

set_option smartUnfolding false in
theorem deserialize_eq (k : Kinds) (hr : Bool) (n nres e next : Nat) (toks : List Tok) :
    deserialize k hr n nres e next toks = (·.1) <$> deWorld k hr n nres e next toks := by
  simp only [deWorld, bind_apply, pure_apply, lift_apply, map_bind, bind_map_left, map_pure]
  rfl

theorem Yields.deserialize {k : Kinds} {hr : Bool} {n nres e next : Nat} {Q : World → Prop}
    (h : Yields (deWorld k hr n nres e next) Q) {toks : List Tok} {w : World}
    (hd : deserialize k hr n nres e next toks = .ok w) : Q w := by
  rw [deserialize_eq] at hd
  cases hw : deWorld k hr n nres e next toks with
  | error _ => rw [hw] at hd; cases hd
  | ok r => rw [hw] at hd; cases hd; exact h _ _ _ hw

theorem Reads.deserialize {k : Kinds} {hr : Bool} {n nres e next : Nat} {toks : List Tok} {w : World}
    (h : Reads (deWorld k hr n nres e next) toks w) : deserialize k hr n nres e next toks = .ok w := by
  rw [deserialize_eq, ← List.append_nil toks, h []]
  rfl

end Serde
end Brood
