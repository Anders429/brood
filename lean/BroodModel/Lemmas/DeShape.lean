/-
  Shape of what the deserializer's visitors accept: whatever the token stream, a table returned by
  `Serde.deArch` has a mask of the registry's length, one column per set bit, columns exactly as
  long as the identifier list and holding only values of their component's type; the tables
  returned by `Serde.deArchs` have consecutive handles and pairwise different masks.
-/
import BroodModel.Lemmas.Mask
import BroodModel.Lemmas.Linked
import BroodModel.Lemmas.Parse

namespace Brood
namespace Serde

theorem yields_val {k : Kinds} {e ty : Nat} : Yields (deVal k e ty) (·.ty = ty) := by
  rw [deVal_do]
  exact .bind .triv fun n _ => .pure (by split <;> rfl)

theorem yields_mask {n : Nat} : Yields (deMask n) (·.length = n) := by
  rw [deMask_do]
  exact .bind .triv fun bytes _ => .ite (.fail _) (.pure (by simp [Mask.unpack]))

theorem yields_row {k : Kinds} {e : Nat} {comps : List Nat} :
    Yields (deRow k e comps) fun p => p.2.map (·.ty) = comps := by
  rw [deRow_do, deRow_go_eq]
  refine .bind .triv fun _ _ => .bind .triv fun id _ =>
    .bind (.traverse (fun c => .elem yields_val) _) fun vs ⟨hl, hv⟩ => .bind .triv fun _ _ => .pure ?_
  refine List.ext_getElem (by simpa using hl) fun j h1 h2 => ?_
  have h1' : j < vs.length := by simpa using h1
  simpa using hv j _ _ (List.getElem?_eq_getElem h2) (List.getElem?_eq_getElem h1')

theorem transpose_spec {comps : List Nat} {rows : List (List Val)}
    (hr : ∀ r ∈ rows, r.map (·.ty) = comps) :
    (transpose comps.length rows).length = comps.length ∧
    ∀ (j : Nat) (c : List Val) (ty : Nat), (transpose comps.length rows)[j]? = some c →
      comps[j]? = some ty → c.length = rows.length ∧ ∀ v ∈ c, v.ty = ty := by
  unfold transpose
  refine ⟨by simp, fun j c ty hj hty => ?_⟩
  rw [List.getElem?_map, List.getElem?_range (List.getElem?_eq_some_iff.mp hty).1] at hj
  cases hj
  have hcell : ∀ r ∈ rows, ∃ v, r[j]? = some v ∧ v.ty = ty := fun r hrm => by
    have := congrArg (·[j]?) (hr r hrm)
    simp only [List.getElem?_map, hty] at this
    exact Option.map_eq_some_iff.mp this
  constructor
  · refine List.filterMap_length_eq_length.mpr fun r hrm => ?_
    obtain ⟨v, hv, _⟩ := hcell r hrm
    simp [hv]
  · intro v hv
    obtain ⟨r, hrm, hrv⟩ := List.mem_filterMap.mp hv
    obtain ⟨v', hv', hty'⟩ := hcell r hrm
    rw [hv'] at hrv
    cases hrv
    exact hty'

theorem yields_arch {k : Kinds} {hr : Bool} {n e h : Nat} :
    Yields (deArch k hr n e h) fun a => a.handle = h ∧ ArchShape n a := by
  rw [deArch_do]
  refine .bind .triv fun t _ => ?_
  cases t with
  | newtype name =>
    refine .ite (.fail _) <| .bind .triv fun _ _ => .bind (.elem yields_mask) fun mask hm =>
      .bind .triv fun length _ => .bind (.elem (.ite ?_ ?_)) fun a ha => .bind .triv fun _ _ => .pure ha
    · rw [deArchBodyRows_do]
      refine .bind (.tupleOf yields_row) fun rows ⟨_, hrows⟩ => .pure ?_
      obtain ⟨s1, s2⟩ := transpose_spec (rows := rows.map (·.2)) (comps := mask.comps) fun r hrm => by
        obtain ⟨p, hp, rfl⟩ := List.mem_map.mp hrm
        exact hrows p hp
      exact ⟨rfl, hm, by rw [s1, comps_length], fun j c ty hj hty =>
        (s2 j c ty hj hty).imp_left fun h => by rw [h, List.length_map, List.length_map]⟩
    · rw [deArchBodyCols_do, deCols_eq]
      refine .bind .triv fun _ _ => .bind (.elem (.tupleOf .triv)) fun ids ⟨hil, _⟩ =>
        .bind (.traverse (fun c => .elem (.tupleOf yields_val)) _) fun cols ⟨hcl, hc⟩ =>
        .bind .triv fun _ _ => .pure ⟨rfl, hm, by rw [hcl, comps_length], fun j c ty hj hty => ?_⟩
      obtain ⟨q1, q2⟩ := hc j ty c hty hj
      exact ⟨q1.trans hil.symm, q2⟩
  | _ => exact .fail _

/-- The accumulated tables of `deArchs`: consecutive handles from `h0`, well-shaped, pairwise
different masks. -/
structure ArchsOk (n h0 : Nat) (l : List Arch) : Prop where
  handles : ∀ (j : Nat) (a : Arch), l[j]? = some a → a.handle = h0 + j
  shape : ∀ a ∈ l, ArchShape n a
  masks : (l.map (·.mask)).Nodup

theorem ArchsOk.concat {n h0 : Nat} {acc : List Arch} {a : Arch} (hacc : ArchsOk n h0 acc)
    (ah : a.handle = h0 + acc.length) (ash : ArchShape n a)
    (hnew : ¬ (acc.any fun b => b.mask == a.mask) = true) : ArchsOk n h0 (acc ++ [a]) := by
  refine ⟨fun j b hj => ?_, forall_mem_concat hacc.shape ash,
    nodup_map_concat hacc.masks fun b hb e => hnew (List.any_eq_true.mpr ⟨b, hb, by simp [e]⟩)⟩
  rw [getElem?_append_singleton] at hj
  split at hj
  next hj' =>
    cases hj
    rw [ah, hj']
  next => exact hacc.handles j b hj

theorem yields_archs (k : Kinds) (hr : Bool) (n e h0 : Nat) (fuel : Nat) (acc : List Arch)
    (hacc : ArchsOk n h0 acc) :
    Yields (deArchs k hr n e fuel (h0 + acc.length) acc) (ArchsOk n h0) := by
  induction fuel generalizing acc with
  | zero => exact .fail "fuel"
  | succ fuel ih =>
    rw [deArchs_succ]
    refine .bind .triv fun more _ => ?_
    cases more
    · exact .pure hacc
    · refine .bind yields_arch fun a ⟨ah, ash⟩ => ?_
      split
      next => exact .fail _
      next hnew =>
        have := ih (acc ++ [a]) (hacc.concat ah ash hnew)
        rwa [List.length_append, List.length_singleton, ← Nat.add_assoc] at this

theorem yields_archsSeq {k : Kinds} {hr : Bool} {n e next : Nat} :
    Yields (deArchsSeq k hr n e next) (ArchsOk n next) := by
  intro ts archs ts' h
  unfold deArchsSeq at h
  split at h
  · exact yields_archs k hr n e next _ [] ⟨by simp, by simp, .nil⟩ _ _ _ h
  · cases h
  · cases h

end Serde
end Brood
