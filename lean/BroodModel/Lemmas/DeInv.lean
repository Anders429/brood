/-
  Whatever the token stream: if `Serde.deserialize` returns a world, that world satisfies the
  invariant (C11).
-/
import BroodModel.Lemmas.DeShape
import BroodModel.Lemmas.FromParts
import BroodModel.Lemmas.Copy

namespace Brood
namespace Serde
open Alloc

theorem PartsOk.linked {w : World} {free : List Ident} (hp : PartsOk free w.archs w.alloc)
    (hn : (w.archs.map (·.handle)).Nodup) (hl : w.len = (w.archs.map (·.ids.length)).sum) : Linked w := by
  have hidAt : ∀ id l, w.idAt l = some id ↔ (id, l) ∈ rowsOf w.archs := by
    intro id l
    rw [idAt_eq_some, mem_rowsOf]
    constructor
    · rintro ⟨a, hf, hr⟩
      exact ⟨a, (findArch_some hf).1, (findArch_some hf).2.symm, hr⟩
    · rintro ⟨a, ha, hh, hr⟩
      exact ⟨a, hh ▸ findArch_of_mem hn ha, hr⟩
  refine ⟨⟨hp.free_eq ▸ hp.free_nodup, ?_, ?_⟩, fun id l => ?_, hl⟩
  · intro i hi
    rw [hp.free_eq] at hi
    obtain ⟨f, hf, rfl⟩ := List.mem_map.mp hi
    exact ⟨_, hp.free_slot f hf, rfl⟩
  · intro i s hs hloc
    rcases hp.cover i s hs with ⟨f, hf, rfl, -⟩ | ⟨id, l, -, -, rfl⟩
    · rw [hp.free_eq]; exact List.mem_map.mpr ⟨f, hf, rfl⟩
    · cases hloc
  · rw [hidAt]
    constructor
    · intro hg
      obtain ⟨s, hs, hgen, hloc⟩ := get_eq_some.mp hg
      rcases hp.cover _ s hs with ⟨f, -, -, rfl⟩ | ⟨id', l', hm, hidx, rfl⟩
      · cases hloc
      · cases hloc
        have : id' = id := Ident.ext hidx hgen
        exact this ▸ hm
    · intro hm
      exact get_eq_some.mpr ⟨_, hp.row_slot id l hm, rfl, rfl⟩

theorem assemble_inv {n next : Nat} {archs : List Arch} {free : List Ident} {al : Alloc}
    (ha : ArchsOk n next archs) (hp : PartsOk free archs al) (res : List Val) :
    Inv (assemble n next archs al res) := by
  obtain ⟨hnd, hlt⟩ := consecutive_handles ha.handles
  refine Inv.of_halves ⟨fun a ham => ⟨ha.shape a ham, hlt a ham, List.mem_map.mpr ⟨a, ham, rfl⟩⟩, ha.masks,
    hnd, (fun p hp' => nomatch hp'), List.nodup_nil, fun p hp' => ?_⟩ (PartsOk.linked hp hnd rfl)
  obtain ⟨a, ham, rfl⟩ := List.mem_map.mp (hp' : p ∈ archs.map (fun a => (a.mask, a.handle)))
  exact lookupOk_of_find (w := assemble n next archs al res) (find_handle_of_mem hnd ham) rfl

/-- **C11, structural part**: for every token stream, both encodings, every registry size and
resource count — deserialization returns an error or a world satisfying the invariant. -/
theorem deserialize_inv {k : Kinds} {hr : Bool} {n nres e next : Nat} {toks : List Tok} {w : World}
    (h : deserialize k hr n nres e next toks = .ok w) : Inv w :=
  Yields.deserialize (.bind .triv fun _ _ => .bind (.elem yields_archsSeq) fun _ ha =>
    .bind .triv fun (_, _) _ => .bind (.lift fun _ hal => fromParts_spec hal) fun _ hp =>
    .bind .triv fun res _ => .bind .triv fun _ _ => .pure (assemble_inv ha hp res)) h

end Serde
end Brood
